/-
  Core/CT — a leakage model for the functions documented "constant time".

  tools/gotr (pass T5) renders each such function (and everything it calls inside the
  package) as a list of statements whose expressions make explicit every place where a value
  can influence what is executed or which memory is touched.  `leak` is the trace an observer of
  control flow and addresses sees; `ctOK` is a syntactic check; `ct_sound` proves that `ctOK`
  implies the trace is the same for all values of the secret leaves (non-interference), for every
  interpretation of the arithmetic operators.  Core-only.
-/
namespace Secp.CT

/-- expression trees; `pub` = constants and len/cap, `sec` = any variable or field -/
inductive CE where
  | pub
  | sec
  | un (a : CE)
  | bin (a b : CE)
  | sc (a b : CE)             -- short-circuit && / ||  : leaks the value of a
  | idx (base i : CE)         -- base[i]                : leaks i
  | sl (base lo hi : CE)      -- base[lo:hi]            : leaks lo, hi
  | shift (a k : CE)          -- a << k, a >> k         : leaks k
  | dm (a b : CE)             -- a / b, a % b           : leaks a, b
  | call (f : Nat) (args : CE)
  | argCons (a rest : CE)
  | argNil
  deriving Repr, DecidableEq, Inhabited

inductive Stmt where
  | eval (e : CE)
  | ctrl (cond : CE)          -- if / for / switch / range on cond : leaks cond
  | ret
  deriving Repr, DecidableEq, Inhabited

structure Fn where
  id : Nat
  name : String
  documented : Bool
  body : List Stmt
  deriving Repr, Inhabited

/-- an interpretation of the operators, and an assignment of values to the leaves.
    Leaves are numbered in evaluation order by a counter threaded through `eval`. -/
structure Interp where
  un : Nat → Nat
  bin : Nat → Nat → Nat
  callv : Nat → Nat → Nat       -- callee id, combined argument value ↦ result
  pubv : Nat → Nat              -- value of the n-th public leaf
  secv : Nat → Nat              -- value of the n-th secret leaf

/-- public expressions: no secret leaf; a call is public when all its arguments are
    (package functions are deterministic functions of their arguments) -/
def isPub : CE → Bool
  | .pub => true
  | .sec => false
  | .un a => isPub a
  | .bin a b => isPub a && isPub b
  | .sc a b => isPub a && isPub b
  | .idx b i => isPub b && isPub i
  | .sl b lo hi => isPub b && isPub lo && isPub hi
  | .shift a k => isPub a && isPub k
  | .dm a b => isPub a && isPub b
  | .call _ args => isPub args
  | .argCons a r => isPub a && isPub r
  | .argNil => true

/-- number of leaves (so that sibling subtrees read disjoint leaf indices) -/
def leaves : CE → Nat
  | .pub => 1
  | .sec => 1
  | .un a => leaves a
  | .bin a b => leaves a + leaves b
  | .sc a b => leaves a + leaves b
  | .idx b i => leaves b + leaves i
  | .sl b lo hi => leaves b + leaves lo + leaves hi
  | .shift a k => leaves a + leaves k
  | .dm a b => leaves a + leaves b
  | .call _ args => leaves args
  | .argCons a r => leaves a + leaves r
  | .argNil => 0

/-- value of an expression whose first leaf has index n -/
def eval (I : Interp) : Nat → CE → Nat
  | n, .pub => I.pubv n
  | n, .sec => I.secv n
  | n, .un a => I.un (eval I n a)
  | n, .bin a b => I.bin (eval I n a) (eval I (n + leaves a) b)
  | n, .sc a b => I.bin (eval I n a) (eval I (n + leaves a) b)
  | n, .idx b i => I.bin (eval I n b) (eval I (n + leaves b) i)
  | n, .sl b lo hi => I.bin (eval I n b) (I.bin (eval I (n + leaves b) lo) (eval I (n + leaves b + leaves lo) hi))
  | n, .shift a k => I.bin (eval I n a) (eval I (n + leaves a) k)
  | n, .dm a b => I.bin (eval I n a) (eval I (n + leaves a) b)
  | n, .call f args => I.callv f (eval I n args)
  | n, .argCons a r => I.bin (eval I n a) (eval I (n + leaves a) r)
  | _, .argNil => 0

/-- what an observer of control flow / addresses / operand-dependent instruction timing sees -/
def leak (I : Interp) : Nat → CE → List Nat
  | _, .pub => []
  | _, .sec => []
  | n, .un a => leak I n a
  | n, .bin a b => leak I n a ++ leak I (n + leaves a) b
  | n, .sc a b => leak I n a ++ [eval I n a] ++ leak I (n + leaves a) b
  | n, .idx b i => leak I n b ++ leak I (n + leaves b) i ++ [eval I (n + leaves b) i]
  | n, .sl b lo hi => leak I n b ++ leak I (n + leaves b) lo ++ leak I (n + leaves b + leaves lo) hi ++
      [eval I (n + leaves b) lo, eval I (n + leaves b + leaves lo) hi]
  | n, .shift a k => leak I n a ++ leak I (n + leaves a) k ++ [eval I (n + leaves a) k]
  | n, .dm a b => leak I n a ++ leak I (n + leaves a) b ++ [eval I n a, eval I (n + leaves a) b]
  | n, .call f args => leak I n args ++ [f]
  | n, .argCons a r => leak I n a ++ leak I (n + leaves a) r
  | _, .argNil => []

/-- syntactic constant-time check of an expression: every leaked operand is public -/
def ctOKE : CE → Bool
  | .pub => true
  | .sec => true
  | .un a => ctOKE a
  | .bin a b => ctOKE a && ctOKE b
  | .sc a b => ctOKE a && ctOKE b && isPub a
  | .idx b i => ctOKE b && ctOKE i && isPub i
  | .sl b lo hi => ctOKE b && ctOKE lo && ctOKE hi && isPub lo && isPub hi
  | .shift a k => ctOKE a && ctOKE k && isPub k
  | .dm a b => ctOKE a && ctOKE b && isPub a && isPub b
  | .call _ args => ctOKE args
  | .argCons a r => ctOKE a && ctOKE r
  | .argNil => true

/-- two interpretations that differ only in the secret leaves -/
def SameButSecrets (I J : Interp) : Prop :=
  I.un = J.un ∧ I.bin = J.bin ∧ I.callv = J.callv ∧ I.pubv = J.pubv

theorem eval_pub (I J : Interp) (h : SameButSecrets I J) (e : CE) (n : Nat) (hp : isPub e = true) :
    eval I n e = eval J n e := by
  obtain ⟨hu, hb, hc, hv⟩ := h
  induction e generalizing n <;> simp_all [isPub, eval]

/-- non-interference for expressions -/
theorem leak_indep (I J : Interp) (h : SameButSecrets I J) (e : CE) (n : Nat) (hok : ctOKE e = true) :
    leak I n e = leak J n e := by
  induction e generalizing n <;> simp_all [ctOKE, leak, eval_pub I J h]

/-- leak of a statement; each statement reads fresh leaves starting at `n` -/
def leakS (I : Interp) (n : Nat) : Stmt → List Nat
  | .eval e => leak I n e
  | .ctrl c => leak I n c ++ [eval I n c]
  | .ret => []

def stmtLeaves : Stmt → Nat
  | .eval e => leaves e
  | .ctrl c => leaves c
  | .ret => 0

def leakBody (I : Interp) : Nat → List Stmt → List Nat
  | _, [] => []
  | n, s :: rest => leakS I n s ++ leakBody I (n + stmtLeaves s) rest

/-- a statement is constant time when its expression is, and a control construct additionally
    has a public condition -/
def ctOKS : Stmt → Bool
  | .eval e => ctOKE e
  | .ctrl c => ctOKE c && isPub c
  | .ret => true

/-- call targets must be inside the table (ids below `nfn`) or intrinsics (100000 + k) -/
def callsOK (nfn : Nat) : CE → Bool
  | .pub => true
  | .sec => true
  | .un a => callsOK nfn a
  | .bin a b => callsOK nfn a && callsOK nfn b
  | .sc a b => callsOK nfn a && callsOK nfn b
  | .idx a b => callsOK nfn a && callsOK nfn b
  | .sl a b c => callsOK nfn a && callsOK nfn b && callsOK nfn c
  | .shift a b => callsOK nfn a && callsOK nfn b
  | .dm a b => callsOK nfn a && callsOK nfn b
  | .call f args => (f < nfn || (100000 ≤ f && f < 100100)) && callsOK nfn args
  | .argCons a r => callsOK nfn a && callsOK nfn r
  | .argNil => true

def stmtExpr : Stmt → CE
  | .eval e => e
  | .ctrl c => c
  | .ret => .argNil

def Fn.ctOK (nfn : Nat) (f : Fn) : Bool :=
  f.body.all fun s => ctOKS s && callsOK nfn (stmtExpr s)

/-- non-interference for a function body: if every statement passes `ctOKS`, the leakage trace
    does not depend on the secret leaves -/
theorem ct_sound (I J : Interp) (h : SameButSecrets I J) (body : List Stmt) (n : Nat)
    (hok : body.all ctOKS = true) : leakBody I n body = leakBody J n body := by
  induction body generalizing n with
  | nil => rfl
  | cons s rest ih =>
    simp only [List.all_cons, Bool.and_eq_true] at hok
    cases s <;> simp_all [leakBody, leakS, ctOKS, leak_indep I J h, eval_pub I J h]

/-- the whole table: every function passes, and every call stays inside the table or the intrinsics -/
def tableOK (fns : List Fn) : Bool := fns.all (Fn.ctOK fns.length)

/-- first offending function and statement index, for diagnostics -/
def firstBad (fns : List Fn) : Option (String × Nat) :=
  fns.findSome? fun f =>
    (f.body.zipIdx.find? fun (s, _) => !(ctOKS s && callsOK fns.length (stmtExpr s))).map fun (_, i) => (f.name, i)

end Secp.CT
