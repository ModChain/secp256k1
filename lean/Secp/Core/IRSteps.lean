import Secp.Core.IR
/-
  Core/IRSteps — turning a run of a concrete kernel into one hypothesis per
  SSA entry, without inlining (so that a proof works with named intermediate
  values, each defined from the earlier ones).
-/
namespace Secp.IR

/-- `Steps ev body env k`: there are values, one per body entry, each equal to the
    evaluation of its entry in the environment built so far, and `k` holds of the final env. -/
def Steps (ev : List Nat → Expr → Nat) : List Expr → List Nat → (List Nat → Prop) → Prop
  | [], env, k => k env
  | e :: rest, env, k => ∃ v, v = ev env e ∧ Steps ev rest (v :: env) k

theorem steps_iff (ev : List Nat → Expr → Nat) (body : List Expr) (env : List Nat) (k : List Nat → Prop) :
    Steps ev body env k ↔ k (runBody ev body env) := by
  induction body generalizing env with
  | nil => simp [Steps, runBody]
  | cons e rest ih =>
    simp only [Steps, runBody]
    constructor
    · rintro ⟨v, rfl, h⟩; exact (ih _).1 h
    · intro h; exact ⟨_, rfl, (ih _).2 h⟩

/-- opaque marker around the final fact, so that a `repeat obtain` loop stops there -/
@[irreducible] def Done (p : Prop) : Prop := p

theorem Done.out {p : Prop} (h : Done p) : p := by unfold Done at h; exact h
theorem Done.intro {p : Prop} (h : p) : Done p := by unfold Done; exact h

theorem steps_run (ev : List Nat → Expr → Nat) (body : List Expr) (env : List Nat) :
    Steps ev body env (fun e => Done (runBody ev body env = e)) :=
  (steps_iff ev body env _).2 (Done.intro rfl)

end Secp.IR
