import Secp.Spec.Basic
/-
  Model/Outcome — result type of the hand-written models of Go functions.
  `panic` is produced exactly where the Go code would hit a run-time panic
  (index or slice out of range, explicit `panic(...)`), so that "never panics"
  is a theorem about the model rather than an artefact of totalisation.
  After the definitions: the lemmas by which the proofs remove a read whose bound holds (`idx_ok`, `slice_ok`,
  `sliceFrom_ok`) and read off an `if … then .err …` ladder or a bind (`Outcome.ite_err_eq_*`, `Outcome.bind_eq_*`).
-/
namespace Secp.Model
open Secp.Spec

inductive Outcome (ε α : Type) where
  | ok (a : α)
  | err (e : ε)
  | panic
  deriving Repr, DecidableEq

namespace Outcome
@[inline] def bind {ε α β} (x : Outcome ε α) (f : α → Outcome ε β) : Outcome ε β :=
  match x with
  | ok a => f a
  | err e => err e
  | panic => panic

instance {ε} : Monad (Outcome ε) where
  pure := ok
  bind := bind

@[simp] theorem bind_ok {ε α β} (a : α) (f : α → Outcome ε β) : (ok a >>= f) = f a := rfl
@[simp] theorem bind_err {ε α β} (e : ε) (f : α → Outcome ε β) : ((err e : Outcome ε α) >>= f) = err e := rfl
@[simp] theorem bind_panic {ε α β} (f : α → Outcome ε β) : ((panic : Outcome ε α) >>= f) = panic := rfl
@[simp] theorem pure_eq {ε α} (a : α) : (pure a : Outcome ε α) = ok a := rfl
end Outcome

/-- Go `b[i]` -/
def idx {ε} (b : Bytes) (i : Nat) : Outcome ε UInt8 :=
  match b[i]? with
  | some x => .ok x
  | none => .panic

/-- Go `b[lo:hi]` (capacity = length for all slices the models take) -/
def slice {ε} (b : Bytes) (lo hi : Nat) : Outcome ε Bytes :=
  if lo ≤ hi ∧ hi ≤ b.length then .ok ((b.take hi).drop lo) else .panic

/-- Go `b[lo:]` -/
def sliceFrom {ε} (b : Bytes) (lo : Nat) : Outcome ε Bytes :=
  if lo ≤ b.length then .ok (b.drop lo) else .panic

/-! ### how the proofs read a model written in this monad

  A read whose bound holds is `ok`; an `if … then .err e else K` ladder equals `ok` / `panic` / `err`
  exactly when every test on the way fails / some test fires. -/

variable {ε α β : Type}

/-- the byte is written `b[i]?.getD 0`, so that what follows a read mentions no bounds proof -/
theorem idx_ok {b : Bytes} {i : Nat} (h : i < b.length) : (idx b i : Outcome ε UInt8) = .ok (b[i]?.getD 0) := by
  simp [idx, h]

theorem idx_bind {b : Bytes} {i : Nat} (h : i < b.length) (K : UInt8 → Outcome ε β) :
    (idx b i >>= K) = K (b[i]?.getD 0) := by
  rw [idx_ok h, Outcome.bind_ok]

theorem ok_ite {c : Prop} [Decidable c] (x y : α) :
    (.ok (if c then x else y) : Outcome ε α) = if c then .ok x else .ok y :=
  apply_ite _ _ _ _

theorem slice_ok {b : Bytes} {lo hi : Nat} (h1 : lo ≤ hi) (h2 : hi ≤ b.length) :
    (slice b lo hi : Outcome ε Bytes) = .ok ((b.take hi).drop lo) :=
  if_pos ⟨h1, h2⟩

theorem sliceFrom_ok {b : Bytes} {lo : Nat} (h : lo ≤ b.length) :
    (sliceFrom b lo : Outcome ε Bytes) = .ok (b.drop lo) :=
  if_pos h

namespace Outcome
variable {c : Prop} [Decidable c] {e e' : ε} {K : Outcome ε α} {v : α}

theorem ite_err_eq_ok : (if c then .err e else K) = .ok v ↔ ¬c ∧ K = .ok v := by
  by_cases h : c <;> simp [h]

theorem ite_err_eq_panic : (if c then .err e else K) = .panic ↔ ¬c ∧ K = .panic := by
  by_cases h : c <;> simp [h]

theorem ite_err_eq_err : (if c then .err e else K) = .err e' ↔ c ∧ e = e' ∨ ¬c ∧ K = .err e' := by
  by_cases h : c <;> simp [h]

theorem bind_eq_ok {x : Outcome ε α} {f : α → Outcome ε β} {w : β} :
    (x >>= f) = .ok w ↔ ∃ a, x = .ok a ∧ f a = .ok w := by
  cases x <;> simp

theorem bind_eq_panic {x : Outcome ε α} {f : α → Outcome ε β} :
    (x >>= f) = .panic ↔ x = .panic ∨ ∃ a, x = .ok a ∧ f a = .panic := by
  cases x <;> simp

theorem bind_eq_err {x : Outcome ε α} {f : α → Outcome ε β} :
    (x >>= f) = .err e ↔ x = .err e ∨ ∃ a, x = .ok a ∧ f a = .err e := by
  cases x <;> simp

end Outcome

/-- the same ladder in the parsers that return `Except` -/
theorem Except.ite_error_eq_ok {c : Prop} [Decidable c] {e : ε} {K : Except ε α} {v : α} :
    (if c then .error e else K) = .ok v ↔ ¬c ∧ K = .ok v := by
  by_cases h : c <;> simp [h]

/-- … and in the checks that return `Option`, an error or `none` -/
theorem Option.ite_some_eq_none {c : Prop} [Decidable c] {e : ε} {K : Option ε} :
    (if c then some e else K) = none ↔ ¬c ∧ K = none := by
  by_cases h : c <;> simp [h]

end Secp.Model
