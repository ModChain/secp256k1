import Secp.Proofs.Slices
import Secp.Proofs.SliceSound
/-
  Proofs/AbsChecked — the abstract interpreter accepts the regenerated programs: the evaluated facts.

  Each program is interpreted once, here (C16's `contracts_justified` runs the two sliced callees a second time, against
  their postcondition).  The sliced table (`Gen.Slices`) is one fact, `allSlices_ok`;
  what a property file says about its own functions is a lookup in it that never compares strings:
  an entry constant is found under its own name because `find?` can only return an element of the
  table, and every element of the table passed.  The point routines (`Gen.Formulas`) are one fact
  each; the seven that are also called under a contract are checked against the contract's
  postcondition, which gives both their `_ok` theorem (C16; `_limb_exact` in C04) and `contracts_justified` (C16).
-/
namespace Secp.Proofs.AbsChecked
open Secp.FOp Secp.Gen.Slices Secp.Gen.Formulas Secp.Proofs.Slices

theorem find?_of_all {α : Type} {l : List α} {p q : α → Bool} (hq : l.all q = true) {a : α}
    (ha : a ∈ l) (hp : p a = true) : ∃ b, l.find? p = some b ∧ q b = true := by
  cases hf : l.find? p with
  | none => exact absurd hp (List.find?_eq_none.mp hf a ha)
  | some b => exact ⟨b, rfl, List.all_eq_true.mp hq b (List.mem_of_find?_eq_some hf)⟩

theorem allSlices_ok : allSlices.all (SEntry.ok contracts) = true := by decide +kernel

theorem entryOK_of_mem {e : SEntry} (he : e ∈ allSlices) : entryOK e.name = true := by
  obtain ⟨b, hb, hok⟩ := find?_of_all (p := fun x => x.name == e.name) allSlices_ok he (beq_self_eq_true _)
  rw [entryOK, hb]; exact hok

/-- the form in which the property files use it: list the entry constants; their names are the
    strings of the statement by unfolding -/
theorem entriesOK_of_mem (es : List SEntry) (h : ∀ e ∈ es, e ∈ allSlices) :
    entriesOK (es.map (·.name)) = true := by
  rw [entriesOK, List.all_map, List.all_eq_true]
  exact fun e he => entryOK_of_mem (h e he)

theorem names_cover (es : List SEntry) (h : ∀ e ∈ es, e ∈ allSlices) :
    ((es.map (·.name)).all fun n => allSlices.any fun e => e.name == n) = true := by
  rw [List.all_map, List.all_eq_true]
  exact fun e he => List.any_eq_true.mpr ⟨e, h e he, beq_self_eq_true _⟩

theorem absOK_of_absPost (e : Entry) (σ0 : AState) (post : List (Nat × AV)) (outs : List Nat)
    (hout : ∀ i ∈ outs, (i, ((1 : Nat), true)) ∈ post) (h : e.absPost σ0 post = true) :
    e.absOK σ0 outs = true := by
  rw [Entry.absOK, List.all_eq_true]
  rw [Entry.absPost, List.all_eq_true] at h
  intro p hp
  have hp := h p hp
  cases hq : absPath p.items σ0 with
  | none => rw [hq] at hp; exact hp
  | some σ =>
    rw [hq] at hp
    simp only [List.all_eq_true] at hp ⊢
    intro i hi
    obtain ⟨m1, n1, e1, -, hn⟩ := SliceSound.avLE_some (hp _ (hout i hi))
    rw [e1]; exact hn rfl

/-- the entry is located by its index, so that of `justifiedBy`'s lookup only the name comparisons are evaluated -/
theorem justifiedBy_formula (cs : List Contract) (c : Contract) (i : Nat) (e : Entry)
    (hi : allEntries.findIdx? (fun e => e.name == c.name) = some i) (he : allEntries[i]? = some e)
    (h : e.absPost c.σ0 c.post = true) : justifiedBy cs c = true := by
  simp only [justifiedBy, List.find?_eq_bind_findIdx?_getElem?, hi, Option.bind_some, he]
  exact h

abbrev nrmIn (n : Nat) : AState := List.replicate n (some (1, true))

theorem AddNonConst_post : AddNonConst.absPost (nrmIn 9) [(6, (1, true)), (7, (1, true)), (8, (1, true))] = true := by decide +kernel
theorem AddNonConst_r1_post : AddNonConst_r1.absPost (nrmIn 6) [(0, (1, true)), (1, (1, true)), (2, (1, true))] = true := by decide +kernel
theorem AddNonConst_r2_post : AddNonConst_r2.absPost (nrmIn 6) [(3, (1, true)), (4, (1, true)), (5, (1, true))] = true := by decide +kernel
theorem DoubleNonConst_post : DoubleNonConst.absPost (nrmIn 6) [(3, (1, true)), (4, (1, true)), (5, (1, true))] = true := by decide +kernel
theorem DoubleNonConst_r1_post : DoubleNonConst_r1.absPost (nrmIn 3) [(0, (1, true)), (1, (1, true)), (2, (1, true))] = true := by decide +kernel
-- `some (8, false)`: the precondition Inverse, SquareRootVal and DecompressY document in Go ("MUST have a max
-- magnitude of 8", field.go, curve.go), no normalisation asked; `none`: a register the routine only writes (SquareRootVal's receiver,
-- DecompressY's `resultY`)
theorem Inverse_post : Inverse.absPost [some (8, false)] [(0, (1, false))] = true := by decide +kernel
theorem SquareRootVal_post : SquareRootVal.absPost [none, some (8, false)] [(0, (1, false)), (1, (1, true))] = true := by decide +kernel

theorem addZ1AndZ2EqualsOne_ok : addZ1AndZ2EqualsOne.absOK (nrmIn 9) [6, 7, 8] = true := by decide +kernel
theorem addZ1EqualsZ2_ok : addZ1EqualsZ2.absOK (nrmIn 9) [6, 7, 8] = true := by decide +kernel
theorem addZ2EqualsOne_ok : addZ2EqualsOne.absOK (nrmIn 9) [6, 7, 8] = true := by decide +kernel
theorem addGeneric_ok : addGeneric.absOK (nrmIn 9) [6, 7, 8] = true := by decide +kernel
theorem doubleZ1EqualsOne_ok : doubleZ1EqualsOne.absOK (nrmIn 6) [3, 4, 5] = true := by decide +kernel
theorem doubleGeneric_ok : doubleGeneric.absOK (nrmIn 6) [3, 4, 5] = true := by decide +kernel
theorem ToAffine_ok : ToAffine.absOK (nrmIn 3) [0, 1, 2] = true := by decide +kernel
theorem isOnCurve_ok : isOnCurve.absOK (nrmIn 2) [] = true := by decide +kernel
theorem DecompressY_ok : DecompressY.absOK [some (8, false), none] [] = true := by decide +kernel

end Secp.Proofs.AbsChecked
