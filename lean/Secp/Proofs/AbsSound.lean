import Secp.Props.C05
import Secp.Model.LimbExec
import Secp.Proofs.FOpLemmas
/-
  Proofs/AbsSound — soundness of the abstract interpreter `FOp.absPath` (magnitude bound,
  normalised?) with respect to LIMB-LEVEL execution (`Model.execPathL`: every operation is the
  regenerated kernel under Go wrap-around semantics), using only the kernel specifications
  of `Secp.Props.C05` (their proofs stand under the C05 statements: hence a Props file among the imports).

  If `absPath` accepts a (call-free) program from σ then, for every limb register file realising σ
  and denoting the value registers rv, the limb run and the value-level run (`execPathWith`) take
  the same branches and the results are again related by `Rel`.
-/
-- `Realises`, shared with Proofs/SliceLimb and Props/C16 under their namespace
namespace Secp.Proofs.SliceLimb
open Secp.FOp Secp.Model Secp.Limbs Secp.Spec

/-- the limb value x and the field value y realise the abstract value (m, nrm): exactly the
    per-register components of `Model.Rel` -/
def Realises (x : L10) (y : Nat) (m : Nat) (nrm : Bool) : Prop :=
  x.U32 ∧ x.MagLE m ∧ (nrm = true → x.Normalized) ∧ x.val % P = y % P ∧ (nrm = true → y < P)

theorem Rel.realises {σ : AState} {rl : LRegs} {rv : Regs} (h : Rel σ rl rv) {i m : Nat} {nrm : Bool}
    (hi : aget σ i = some (m, nrm)) : Realises (lget rl i) (rget rv i) m nrm :=
  ⟨h.2.2.1 i, h.2.2.2 i m nrm hi⟩

end Secp.Proofs.SliceLimb

namespace Secp.Proofs.AbsSound
open Secp.FOp Secp.Model Secp.Limbs Secp.Spec Secp.Gen Secp.IR
open Secp.Props.C05 Secp.Proofs.SliceLimb

def ItemInRange (n : Nat) : PItem → Prop
  | .op o => ∀ i ∈ opRegs o, i < n
  | .assume c _ => ∀ i ∈ condRegs c, i < n
  | .call _ args => ∀ i ∈ args, i < n

instance (n : Nat) (it : PItem) : Decidable (ItemInRange n it) := by
  cases it <;> unfold ItemInRange <;> infer_instance

def InRange (n : Nat) (items : List PItem) : Prop := ∀ it ∈ items, ItemInRange n it

instance (n : Nat) (items : List PItem) : Decidable (InRange n items) := by
  unfold InRange; infer_instance

def PItem.isCall : PItem → Bool
  | .call _ _ => true
  | _ => false

def CallFree (items : List PItem) : Prop := ∀ it ∈ items, PItem.isCall it = false

instance (items : List PItem) : Decidable (CallFree items) := by
  unfold CallFree; infer_instance

theorem ofList_toList (o : L10) : L10.ofList o.toList = o := by
  cases o; rfl

theorem _root_.Secp.Limbs.L10.MagLE.mono {a : L10} {m m' : Nat} (h : a.MagLE m) (hm : m ≤ m') : a.MagLE m' := by
  obtain ⟨h0, h1, h2, h3, h4, h5, h6, h7, h8, h9⟩ := h
  have e := Nat.mul_le_mul_right LB hm
  have e9 := Nat.mul_le_mul_right LB9 hm
  exact ⟨Nat.le_trans h0 e, Nat.le_trans h1 e, Nat.le_trans h2 e, Nat.le_trans h3 e, Nat.le_trans h4 e,
    Nat.le_trans h5 e, Nat.le_trans h6 e, Nat.le_trans h7 e, Nat.le_trans h8 e, Nat.le_trans h9 e9⟩

theorem _root_.Secp.Limbs.L10.Tight.magLE {a : L10} (h : a.Tight) : a.MagLE 1 := by
  simp only [L10.Tight, Nat.reducePow] at h
  simp only [L10.MagLE, LB, LB9, Nat.reducePow, Nat.reduceAdd]
  obtain ⟨h0, h1, h2, h3, h4, h5, h6, h7, h8, h9⟩ := h
  refine ⟨?_, ?_, ?_, ?_, ?_, ?_, ?_, ?_, ?_, ?_⟩ <;> omega

theorem _root_.Secp.Limbs.L10.Normalized.magLE {a : L10} (h : a.Normalized) : a.MagLE 1 := h.1.magLE

/-- NegateVal's outputs are uint32 values whatever the inputs (each is a 32-bit subtraction).  `negate_spec` bounds
    the result by `MagLE (m+1)` and `valA` admits m = `maxMag`, for which the slack bound 64·LB exceeds 2^32: the `U32`
    component of `val_sound`'s `neg` case comes from here, not from the magnitude. -/
theorem negate_out_lt (l : List Nat) : ∀ x ∈ Field_NegateVal.runW l, x < 2 ^ 32 := by
  intro x hx
  simp only [Kernel.runW, Field_NegateVal, runBody, List.map, evalW, List.getD_cons_succ,
    List.getD_cons_zero, List.mem_cons, List.not_mem_nil, or_false] at hx
  rcases hx with h | h | h | h | h | h | h | h | h | h <;> (subst h; exact Nat.mod_lt _ (by decide))

theorem negate_out_u32 (l : List Nat) (o : L10) (h : Field_NegateVal.runW l = o.toList) : o.U32 := by
  have := negate_out_lt l
  rw [h] at this
  simp only [L10.toList, List.mem_cons, List.not_mem_nil, or_false] at this
  simp only [L10.U32]
  refine ⟨this _ ?_, this _ ?_, this _ ?_, this _ ?_, this _ ?_, this _ ?_, this _ ?_, this _ ?_,
    this _ ?_, this _ ?_⟩ <;> simp

theorem lget_lset (r : LRegs) (i j : Nat) (v : L10) (hi : i < r.length) :
    lget (lset r i v) j = if j = i then v else lget r j := by
  unfold lget lset
  grind

theorem length_lset (rl : LRegs) (d : Nat) (x : L10) : (lset rl d x).length = rl.length := by
  simp [lset]

theorem rel_update {σ : AState} {rl : LRegs} {rv : Regs} {d m : Nat} {nrm : Bool} {x : L10} {y : Nat}
    (hd : d < rl.length) (hrel : Rel σ rl rv) (hx : Realises x y m nrm) :
    Rel (aset σ d (m, nrm)) (lset rl d x) (rset rv d y) := by
  obtain ⟨hlen, hσ, hUs, hA⟩ := hrel
  have hd' : d < rv.length := hlen ▸ hd
  refine ⟨by rw [length_lset, length_rset, hlen], ?_, ?_, ?_⟩
  · rw [length_lset]; exact length_aset_le σ d _ _ hσ hd
  · intro i
    rw [lget_lset _ _ _ _ hd]
    split
    · exact hx.1
    · exact hUs i
  · intro i m' nrm' hi
    rw [aget_aset] at hi
    rw [lget_lset _ _ _ _ hd, rget_rset]
    by_cases hid : i = d
    · rw [if_pos hid] at hi ⊢
      rw [if_pos ⟨hid, hd'⟩]
      cases hi
      exact hx.2
    · rw [if_neg hid] at hi ⊢
      rw [if_neg fun e => hid e.1]
      exact hA i m' nrm' hi

theorem mod_neg (x a r : Nat) (h : (x + a) % P = 0) (ha : a % P = r % P) : x % P = fneg r % P := by
  simp only [fneg, P] at *
  omega

theorem mod_add (a b ra rb : Nat) (ha : a % P = ra % P) (hb : b % P = rb % P) :
    (a + b) % P = fadd ra rb % P := by
  simp only [fadd, P] at *
  omega

theorem mod_mul (a b ra rb : Nat) (ha : a % P = ra % P) (hb : b % P = rb % P) :
    (a * b) % P = fmul ra rb % P := by
  unfold fmul
  rw [Nat.mod_mod, Nat.mul_mod, ha, hb, ← Nat.mul_mod]

theorem _root_.Secp.Model.Rel.u32 {σ : AState} {rl : LRegs} {rv : Regs} (h : Rel σ rl rv) (i : Nat) : (lget rl i).U32 :=
  h.2.2.1 i

theorem _root_.Secp.Model.Rel.rdMag {σ : AState} {rl : LRegs} {rv : Regs} (hrel : Rel σ rl rv) {s : Nat}
    {f : Nat → Option AV} {v : AV} (h : rdMag σ s f = some v) :
    ∃ m, (lget rl s).MagLE m ∧ (lget rl s).val % P = rget rv s % P ∧ f m = some v :=
  let ⟨m, _, hs, hf⟩ := rdMag_some h
  ⟨m, (Rel.realises hrel hs).2.1, (Rel.realises hrel hs).2.2.2.1, hf⟩

/-- `AddInt`'s kernel returns the new limb 0 only; the other nine stay, as in `Model.stepL` -/
def valL (r : LRegs) : FOp → L10
  | .set d s => L10.ofList (Field_Set.runW ((lget r d).toList ++ (lget r s).toList))
  | .setInt d v => L10.ofList (Field_SetInt.runW ((lget r d).toList ++ [v]))
  | .zero d => L10.ofList (Field_Zero.runW (lget r d).toList)
  | .neg d s m => L10.ofList (Field_NegateVal.runW ((lget r d).toList ++ (lget r s).toList ++ [m]))
  | .add d s => L10.ofList (Field_Add.runW ((lget r d).toList ++ (lget r s).toList))
  | .add2 d a b => L10.ofList (Field_Add2.runW ((lget r d).toList ++ (lget r a).toList ++ (lget r b).toList))
  | .addInt d v => { lget r d with n0 := (Field_AddInt.runW ((lget r d).toList ++ [v])).getD 0 0 }
  | .mulInt d v => L10.ofList (Field_MulInt.runW ((lget r d).toList ++ [v]))
  | .mul2 d a b => L10.ofList (Field_Mul2.runW ((lget r d).toList ++ (lget r a).toList ++ (lget r b).toList))
  | .sq d a => L10.ofList (Field_SquareVal.runW ((lget r d).toList ++ (lget r a).toList))
  | .norm d => L10.ofList (Field_Normalize.runW (lget r d).toList)

theorem stepL_eq (r : LRegs) (o : FOp) : stepL r o = lset r (dest o) (valL r o) := by
  cases o <;> rfl

theorem length_stepL (r : LRegs) (o : FOp) : (stepL r o).length = r.length := by
  rw [stepL_eq, length_lset]

theorem _root_.Secp.Proofs.SliceLimb.Realises.of_mag {l : List Nat} {o : L10} {y m : Nat} (ho : l = o.toList)
    (hm : m ≤ 63) (hM : o.MagLE m) (hv : o.val % P = y % P) : Realises (L10.ofList l) y m false :=
  ho ▸ (ofList_toList o).symm ▸ ⟨hM.u32 hm, hM, nofun, hv, nofun⟩

theorem _root_.Secp.Proofs.SliceLimb.Realises.small {v : Nat} (hv : v < 2 ^ 16) :
    Realises (L10.ofList [v, 0, 0, 0, 0, 0, 0, 0, 0, 0]) (v % P) 1 true :=
  have hn : (⟨v, 0, 0, 0, 0, 0, 0, 0, 0, 0⟩ : L10).Normalized :=
    ⟨by simp only [L10.Tight]; omega, by simp only [L10.val, P]; omega⟩
  ⟨hn.magLE.u32 (by decide), hn.magLE, fun _ => hn, by simp [L10.ofList, L10.val], fun _ => Nat.mod_lt _ (by simp [P])⟩

theorem val_sound {σ : AState} {rl : LRegs} {rv : Regs} (hrel : Rel σ rl rv) :
    ∀ (o : FOp) {m : Nat} {n : Bool}, valA σ o = some (m, n) → Realises (valL rl o) (valF rv o) m n
  | .set d s, m, n, h => by
    simp only [valL, valF, set_spec, ofList_toList]
    exact Rel.realises hrel h
  | .setInt d v, m, n, h => by
    rw [valA] at h
    obtain ⟨hv, ⟨⟩⟩ := Option.ite_none_right_eq_some.mp h
    simp only [valL, valF, setInt_spec]
    exact .small hv
  | .zero d, m, n, h => by
    rw [valA] at h
    cases h
    simp only [valL, valF, zero_spec]
    exact .small (Nat.two_pow_pos 16)
  | .neg d s m0, m, n, h => by
    rw [valA] at h
    obtain ⟨ms, hM, hv, h⟩ := hrel.rdMag h
    obtain ⟨⟨hle, hm⟩, ⟨⟩⟩ := Option.ite_none_right_eq_some.mp h
    obtain ⟨o, ho, hoM, hov⟩ := negate_spec (lget rl d) (lget rl s) m0 hm (hM.mono hle)
    simp only [valL, valF, ho, ofList_toList]
    exact ⟨negate_out_u32 _ o ho, hoM, nofun, mod_neg _ _ _ hov hv, nofun⟩
  | .add d s, m, n, h => by
    rw [valA] at h
    obtain ⟨md, hMd, hvd, h⟩ := hrel.rdMag h
    obtain ⟨ms, hMs, hvs, h⟩ := hrel.rdMag h
    obtain ⟨hle, ⟨⟩⟩ := Option.ite_none_right_eq_some.mp h
    obtain ⟨o, ho, hoM, hov⟩ := add_spec (lget rl d) (lget rl s) md ms hle hMd hMs
    -- `hle : _ ≤ maxMag` is the `m ≤ 63` of `Realises.of_mag` and of the C05 statements by unfolding
    exact .of_mag ho hle hoM (hov ▸ mod_add _ _ _ _ hvd hvs)
  | .add2 d a b, m, n, h => by
    rw [valA] at h
    obtain ⟨ma, hMa, hva, h⟩ := hrel.rdMag h
    obtain ⟨mb, hMb, hvb, h⟩ := hrel.rdMag h
    obtain ⟨hle, ⟨⟩⟩ := Option.ite_none_right_eq_some.mp h
    obtain ⟨o, ho, hoM, hov⟩ := add2_spec (lget rl d) (lget rl a) (lget rl b) ma mb hle hMa hMb
    exact .of_mag ho hle hoM (hov ▸ mod_add _ _ _ _ hva hvb)
  | .addInt d v, m, n, h => by
    rw [valA] at h
    obtain ⟨md, hMd, hvd, h⟩ := hrel.rdMag h
    obtain ⟨⟨hle, hv⟩, ⟨⟩⟩ := Option.ite_none_right_eq_some.mp h
    obtain ⟨ho, hob⟩ := addInt_spec (lget rl d) md v (by simp only [maxMag] at hle; omega) hMd hv
    have hoM : L10.MagLE (md + 1) { lget rl d with n0 := (lget rl d).n0 + v } :=
      ⟨hob, (hMd.mono (Nat.le_succ md)).2⟩
    have hval : L10.val { lget rl d with n0 := (lget rl d).n0 + v } = (lget rl d).val + v := by
      simp only [L10.val]; omega
    simp only [valL, valF, ho, List.getD_cons_zero]
    exact ⟨hoM.u32 hle, hoM, nofun, hval ▸ mod_add _ _ _ _ hvd rfl, nofun⟩
  | .mulInt d v, m, n, h => by
    rw [valA] at h
    obtain ⟨md, hMd, hvd, h⟩ := hrel.rdMag h
    obtain ⟨⟨hle, -, -⟩, ⟨⟩⟩ := Option.ite_none_right_eq_some.mp h
    obtain ⟨o, ho, hoM, hov⟩ := mulInt_spec (lget rl d) md v hle hMd
    exact .of_mag ho hle hoM (by rw [hov, Nat.mul_comm]; exact mod_mul _ _ _ _ hvd rfl)
  | .mul2 d a b, m, n, h => by
    rw [valA] at h
    obtain ⟨ma, hMa, hva, h⟩ := hrel.rdMag h
    obtain ⟨mb, hMb, hvb, h⟩ := hrel.rdMag h
    obtain ⟨⟨hla, hlb⟩, ⟨⟩⟩ := Option.ite_none_right_eq_some.mp h
    obtain ⟨o, ho, hoM, hov⟩ := mul2_spec (lget rl d) (lget rl a) (lget rl b) (hrel.u32 d)
      (hMa.mono hla) (hMb.mono hlb)
    exact .of_mag ho (by decide) hoM (hov ▸ mod_mul _ _ _ _ hva hvb)
  | .sq d a, m, n, h => by
    rw [valA] at h
    obtain ⟨ma, hMa, hva, h⟩ := hrel.rdMag h
    obtain ⟨hla, ⟨⟩⟩ := Option.ite_none_right_eq_some.mp h
    obtain ⟨o, ho, hoM, hov⟩ := square_spec (lget rl d) (lget rl a) (hrel.u32 d) (hMa.mono hla)
    exact .of_mag ho (by decide) hoM (hov ▸ mod_mul _ _ _ _ hva hva)
  | .norm d, m, n, h => by
    rw [valA] at h
    obtain ⟨md, -, hvd, h⟩ := hrel.rdMag h
    obtain ⟨-, ⟨⟩⟩ := Option.ite_none_right_eq_some.mp h
    obtain ⟨o, ho, hoN, hov⟩ := normalize_spec (lget rl d) (hrel.u32 d)
    simp only [valL, valF, ho, ofList_toList]
    exact ⟨hoN.magLE.u32 (by decide), hoN.magLE, fun _ => hoN,
      by rw [hov, hvd], fun _ => Nat.mod_lt _ (by simp [P])⟩

theorem step_sound (σ σ' : AState) (o : FOp) (rl : LRegs) (rv : Regs)
    (hr : ∀ i ∈ opRegs o, i < rl.length) (h : stepA σ o = some σ') (hrel : Rel σ rl rv) :
    Rel σ' (stepL rl o) (stepF rv o) := by
  rw [stepA_eq] at h
  obtain ⟨⟨m, n⟩, hv, rfl⟩ := Option.map_eq_some_iff.mp h
  rw [stepL_eq, stepF_eq]
  exact rel_update (hr _ (dest_mem_opRegs o)) hrel (val_sound hrel o hv)

theorem _root_.Secp.Model.Rel.norm_eq {σ : AState} {rl : LRegs} {rv : Regs} (h : Rel σ rl rv) {i m : Nat}
    (hi : aget σ i = some (m, true)) : (lget rl i).Tight ∧ (lget rl i).val = rget rv i := by
  obtain ⟨-, -, hN, hv, hy⟩ := Rel.realises h hi
  obtain ⟨ht, hlt⟩ := hN rfl
  rw [Nat.mod_eq_of_lt hlt, Nat.mod_eq_of_lt (hy rfl)] at hv
  exact ⟨ht, hv⟩

theorem cond_sound (σ : AState) (c : FCond) (rl : LRegs) (rv : Regs) (bools : List Bool)
    (h : condA σ c = true) (hrel : Rel σ rl rv) :
    condL rl bools c = condF rv bools c := by
  have hn : ∀ i ∈ condRegs c, (lget rl i).Tight ∧ (lget rl i).val = rget rv i := fun i hi =>
    let ⟨_, hm⟩ := condA_norm h i hi; hrel.norm_eq hm
  cases c with
  | equals a b =>
    obtain ⟨hta, hva⟩ := hn a (by simp [condRegs])
    obtain ⟨htb, hvb⟩ := hn b (by simp [condRegs])
    simp only [condL, condF, equals_spec _ _ hta htb, hva, hvb]
    by_cases e : rget rv a = rget rv b <;> simp [e]
  | isZero a =>
    obtain ⟨-, hva⟩ := hn a (by simp [condRegs])
    simp only [condL, condF, (isZero_spec _).1, hva]
    by_cases e : rget rv a = 0 <;> simp [e]
  | isOne a =>
    obtain ⟨-, hva⟩ := hn a (by simp [condRegs])
    simp only [condL, condF, (isOne_spec _).1, hva]
    by_cases e : rget rv a = 1 <;> simp [e]
  | isOdd a =>
    obtain ⟨-, hva⟩ := hn a (by simp [condRegs])
    simp only [condL, condF, (isOdd_spec _).1, hva]
    by_cases e : rget rv a % 2 = 1 <;> simp [e]
  | boolIn i => rfl

/-- an accepted program has no `.call` item: `absPath` rejects it -/
theorem absPath_sound' (items : List PItem) (σ σ' : AState) (rl : LRegs) (rv : Regs) (bools : List Bool)
    (hir : InRange rl.length items) (habs : absPath items σ = some σ') (hrel : Rel σ rl rv) :
    (execPathL bools items rl = none ↔ execPathWith (fun _ _ => none) bools items rv = none) ∧
    ∀ rl' rv', execPathL bools items rl = some rl' →
      execPathWith (fun _ _ => none) bools items rv = some rv' → Rel σ' rl' rv' := by
  induction items generalizing σ rl rv with
  | nil =>
    cases habs
    exact ⟨by simp [execPathL, execPathWith], fun _ _ h1 h2 => by cases h1; cases h2; exact hrel⟩
  | cons it rest ih =>
    have hit : ItemInRange rl.length it := hir it (List.mem_cons_self ..)
    have hrest : InRange rl.length rest := fun x hx => hir x (List.mem_cons_of_mem _ hx)
    cases it with
    | op o =>
      obtain ⟨σ1, hs, habs⟩ := Option.bind_eq_some_iff.mp habs
      exact ih σ1 (stepL rl o) (stepF rv o) (length_stepL rl o ▸ hrest) habs
        (step_sound σ σ1 o rl rv hit hs hrel)
    | assume c v =>
      simp only [absPath] at habs
      split at habs
      · rename_i hc
        simp only [execPathL, execPathWith, cond_sound σ c rl rv bools hc hrel]
        split
        · exact ih σ rl rv hrest habs hrel
        · exact ⟨by simp, nofun⟩
      · cases habs
    | call e a => cases habs

theorem absPath_sound (items : List PItem) (σ σ' : AState) (rl : LRegs) (rv : Regs) (bools : List Bool)
    (_hcf : CallFree items) (hir : InRange rl.length items)
    (habs : absPath items σ = some σ') (hrel : Rel σ rl rv) :
    (execPathL bools items rl = none ↔ execPathWith (fun _ _ => none) bools items rv = none) ∧
    ∀ rl' rv', execPathL bools items rl = some rl' →
      execPathWith (fun _ _ => none) bools items rv = some rv' → Rel σ' rl' rv' :=
  absPath_sound' items σ σ' rl rv bools hir habs hrel

end Secp.Proofs.AbsSound
