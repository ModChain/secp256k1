import Secp.Model.Adaptor
import Secp.Model.PointSpec
import Secp.Proofs.Buffers
import Secp.Proofs.PubKey
import Secp.Proofs.FieldBridge
import Secp.Proofs.ScalarMultJac
import Secp.Proofs.Chains
import Secp.Proofs.PointOpsDbl
/-
  Proofs/Adaptor — the crypto/elliptic adaptor (ellipticadaptor.go) agrees with the group law (C15).
-/
namespace Secp.Proofs.Adaptor
open Secp.Spec Secp.Model Secp.Proofs.Bytes Secp.Proofs.Chains

theorem bigToField_of_lt {x : Nat} (hx : x < P) : bigToField x = x := by
  unfold bigToField
  rw [minBytes_take32 (Nat.lt_trans hx P_lt_pow), Nat.mod_eq_of_lt hx]

theorem scalar_of_bytes (k : Bytes) : adaptorScalar k = beNat k % N := by
  unfold adaptorScalar
  rw [Buffers.scalarSetByteSlice_fst]
  split
  · rw [minBytes_take32 (Nat.lt_trans (Nat.mod_lt _ N_pos) N_lt_pow), Nat.mod_mod]
  · rw [List.take_of_length_le (by omega)]

theorem adaptorScalar_lt (k : Bytes) : adaptorScalar k < N := by
  rw [scalar_of_bytes]; exact Nat.mod_lt _ N_pos

theorem finv_zero : finv 0 = 0 := by decide +kernel

theorem jacToBig_Z0 (a b : Nat) : jacToBig (a, b, 0) = (0, 0) := by
  unfold jacToBig
  rw [toAffine_run_of_Z a b 0 P_pos, finv_zero]
  rfl

theorem jacToBig_eq (q : Jac) (hq : Jac.WF q) : jacToBig q = xyOfPt (Jac.toPt q) := by
  obtain ⟨X, Y, Z⟩ := q
  cases hi : isInfJ (X, Y, Z) with
  | true =>
    rw [PointOps.toPt_of_inf hi]
    simp only [isInfJ, Bool.or_eq_true, Bool.and_eq_true, beq_iff_eq] at hi
    rcases hi with ⟨rfl, rfl⟩ | rfl
    · unfold jacToBig
      rw [toAffine_run_of_Z 0 0 Z hq.2.2.1]
      simp only [fmul, Nat.zero_mul, Nat.zero_mod]
      rfl
    · exact jacToBig_Z0 X Y
  | false =>
    rw [PointOps.toPt_of_not_inf _ hq hi]
    unfold jacToBig
    rw [toAffine_run_of_Z X Y Z hq.2.2.1]
    rfl

theorem scalarBaseMult_spec (hp : PointSpec) (k : Bytes) :
    adaptorBaseMult k = xyOfPt (smul (beNat k % N) G) := by
  obtain ⟨w, t⟩ := hp.sbmul (adaptorScalar k) (adaptorScalar_lt k)
  have := jacToBig_eq _ w
  rw [t] at this
  rw [← scalar_of_bytes]
  exact this

theorem scalarMult_spec (hp : PointSpec) (p : Nat × Nat) (k : Bytes) (hP : OnCurve p.1 p.2) :
    adaptorScalarMult p k = xyOfPt (smul (beNat k % N) (some p)) := by
  obtain ⟨x, y⟩ := p
  simp only at hP
  obtain ⟨w, t⟩ := hp.smulA (adaptorScalar k) x y (adaptorScalar_lt k) hP
  have := jacToBig_eq _ w
  rw [t] at this
  unfold adaptorScalarMult
  simp only [bigToField_of_lt hP.1, bigToField_of_lt hP.2.1]
  rw [← scalar_of_bytes]
  exact this

theorem xyOfPt_ptOfXY (q : Nat × Nat) : xyOfPt (ptOfXY q) = q := by
  obtain ⟨x, y⟩ := q
  unfold ptOfXY
  split_ifs with h
  · obtain ⟨rfl, rfl⟩ := h; rfl
  · rfl

theorem ptOfXY_onCurve {p : Nat × Nat} (h : OnCurve p.1 p.2) : ¬ (p.1 = 0 ∧ p.2 = 0) ∧ ptOfXY p = some p := by
  have hy : p.2 ≠ 0 := PubKey.y_ne_zero h.2.2
  have hn : ¬ (p.1 = 0 ∧ p.2 = 0) := fun hh => hy hh.2
  exact ⟨hn, by unfold ptOfXY; rw [if_neg hn]⟩

theorem ptOfXY_zero {p : Nat × Nat} (h : p.1 = 0 ∧ p.2 = 0) : ptOfXY p = none := by
  unfold ptOfXY; rw [if_pos h]

theorem add_spec (hp : PointSpec) (p q : Nat × Nat)
    (hP : (p.1 = 0 ∧ p.2 = 0) ∨ OnCurve p.1 p.2) (hQ : (q.1 = 0 ∧ q.2 = 0) ∨ OnCurve q.1 q.2) :
    adaptorAdd p q = xyOfPt (Pt.add (ptOfXY p) (ptOfXY q)) := by
  unfold adaptorAdd
  rcases hP with hP | hP
  · rw [if_pos hP, ptOfXY_zero hP]
    show q = xyOfPt (ptOfXY q)
    exact (xyOfPt_ptOfXY q).symm
  obtain ⟨np, ep⟩ := ptOfXY_onCurve hP
  rw [if_neg np, ep]
  rcases hQ with hQ | hQ
  · rw [if_pos hQ, ptOfXY_zero hQ]
    rfl
  obtain ⟨nq, eq⟩ := ptOfXY_onCurve hQ
  rw [if_neg nq, eq]
  obtain ⟨x1, y1⟩ := p
  obtain ⟨x2, y2⟩ := q
  simp only at hP hQ ⊢
  simp only [bigToField_of_lt hP.1, bigToField_of_lt hP.2.1, bigToField_of_lt hQ.1, bigToField_of_lt hQ.2.1]
  obtain ⟨w1, t1⟩ := ScalarMultJac.affine_spec hP
  obtain ⟨w2, t2⟩ := ScalarMultJac.affine_spec hQ
  obtain ⟨w3, t3⟩ := hp.add3 _ _ w1 w2
  have := jacToBig_eq _ w3
  rw [t3, t1, t2] at this
  exact this

theorem adaptorAdd_lt (p q : Nat × Nat) (hp1 : p.1 < P) (hp2 : p.2 < P) (hq1 : q.1 < P) (hq2 : q.2 < P) :
    (adaptorAdd p q).1 < P ∧ (adaptorAdd p q).2 < P := by
  unfold adaptorAdd
  split_ifs
  · exact ⟨hq1, hq2⟩
  · exact ⟨hp1, hp2⟩
  · simp only []
    exact ⟨(toAffineJ_lt _).1, (toAffineJ_lt _).2⟩

theorem adaptorBaseMult_lt (k : Bytes) : (adaptorBaseMult k).1 < P ∧ (adaptorBaseMult k).2 < P := by
  unfold adaptorBaseMult
  simp only []
  exact ⟨(toAffineJ_lt _).1, (toAffineJ_lt _).2⟩

/- `curve.Double` calls the NON-aliased `DoubleNonConst(p, &result)` (entry "DoubleNonConst", six
  parameter registers; the model function is `dblNC3`), which is not the aliased `dblNC` of
   `PointOps.dbl`.  `PointOps.doubleNonConst_contract` covers both layouts, so `C15.double_spec` needs no hypothesis
   about the point layer.  The adaptor always passes Z = 1. -/

/-- the distinct-result doubling of `(X, Y, 1)` for ANY registers (reduced or not, on the curve or not):
    zero when `Y = 0`, else a reduced triple with the doubling polynomials as residues -/
theorem dblNC3_z1 (X Y : Nat) :
    (Y = 0 → dblNC3 (X, Y, 1) = (0, 0, 0)) ∧
    (Y ≠ 0 → ∃ r, dblNC3 (X, Y, 1) = r ∧ PointOps.Bnd r ∧
      (r.1 : PointOps.F) = PointOps.dbX X Y ∧ (r.2.1 : PointOps.F) = PointOps.dbY X Y ∧ (r.2.2 : PointOps.F) = PointOps.dbZ Y (1 : Nat)) := by
  -- DoubleNonConst at the depth `runNamed` gives (7 + 1 = 8), its routine for Z = 1 one call down (6 + 1)
  refine ⟨fun h => PointOps.dblNC3_of_run fun j => (PointOps.doubleNonConst_run false 7 X Y 1 j).1 (.inl h),
    fun h => ?_⟩
  obtain ⟨X3, Y3, Z3, hrun, hb, e⟩ := PointOps.doubleZ1EqualsOne_run 6 X Y
  exact ⟨_, PointOps.dblNC3_of_run fun j =>
    (PointOps.doubleNonConst_run false 7 X Y 1 j).2 h (by decide) _ (hrun false j), hb, e⟩

end Secp.Proofs.Adaptor
