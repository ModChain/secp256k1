import Secp.Proofs.Buffers
import Secp.Proofs.Nonce
import Secp.Proofs.Adaptor
import Secp.Proofs.Ecdh
import Secp.Proofs.SpecOrder
/-
  Proofs/Bip32 — lemmas behind Props/C12 (BIP32 child derivation) and Props/C13 (extended-key codec).
  The point layer enters only through `PointSpec` (the crypto/elliptic adaptor theorems of `Proofs/Adaptor`).
-/
namespace Secp.Proofs.Bip32
open Secp.Spec Secp.Model Secp.Proofs.SpecGroup

theorem unmarshal_len (data : Bytes) (h : data.length ≠ 82) : unmarshal data = .error .ErrInvalidKeyLen := by
  unfold unmarshal
  rw [if_pos h]

theorem unmarshal_checksum (data : Bytes) (hl : data.length = 82)
    (hc : data.drop 78 ≠ (doubleSha256 (data.take 78)).take 4) : unmarshal data = .error .ErrBadChecksum := by
  unfold unmarshal
  rw [if_neg (by simpa using hl)]
  simp only
  rw [if_pos hc]

/-- the default 1 of `getD 45 1` is the model's `keyData.headD 1` (an empty key data counts as public); the length test
    makes it unreachable -/
theorem unmarshal_eq (data : Bytes) (hl : data.length = 82)
    (hc : data.drop 78 = (doubleSha256 (data.take 78)).take 4) :
    unmarshal data =
      if (data.getD 45 1 == 0) != versionIsPrivate (data.take 4) then .error .ErrInvalidPrivateFlag else
      if (data.getD 45 1 == 0) = true then
        if beNat ((data.take 78).drop 46) ≥ N ∨ beNat ((data.take 78).drop 46) = 0 then .error .ErrInvalidSeed else
        .ok { version := data.take 4, depth := (data.getD 4 0).toNat, fingerprint := (data.take 9).drop 5,
                childNumber := beNat ((data.take 13).drop 9), keyData := (data.take 78).drop 46,
                chainCode := (data.take 45).drop 13 }
      else
        match parsePubKey ((data.take 78).drop 45) with
        | .err e => .error (.Pub e)
        | .panic => .error .ErrInvalidKey
        | .ok _ => .ok
                   { version := data.take 4, depth := (data.getD 4 0).toNat, fingerprint := (data.take 9).drop 5,
                     childNumber := beNat ((data.take 13).drop 9), keyData := (data.take 78).drop 45,
                     chainCode := (data.take 45).drop 13 } := by
  unfold unmarshal
  rw [if_neg (by simpa using hl)]
  simp only
  rw [if_neg (by simpa using hc)]
  simp only [List.take_take, List.drop_drop, Nat.reduceAdd, Nat.min_def, Nat.reduceLeDiff, List.headD_eq_head?_getD,
    List.head?_drop, List.getD_eq_getElem?_getD, List.getElem?_take, Nat.reduceLT, if_true]
  rfl

theorem ser32_length (i : Nat) : (ser32 i).length = 4 := Bytes.beBytes_length 4 i

/-- `paddedAppend` when the spare capacity suffices (no reallocation): the source left-padded to `size` bytes -/
theorem paddedAppend_eq {size spare : Nat} (dst src : Bytes) (h : size - src.length ≤ spare) :
    paddedAppend size dst spare src = dst ++ List.replicate (size - src.length) 0 ++ src := by
  unfold paddedAppend
  split
  · rw [if_pos h]
  · rw [Nat.sub_eq_zero_of_le (by omega), List.replicate_zero, List.append_nil]

theorem marshal_priv_eq (k : ExtKey) (hv : versionIsPrivate k.version = true) (hkl : k.keyData.length = 32) :
    k.marshal =
      (k.version ++ [UInt8.ofNat k.depth] ++ k.fingerprint ++ ser32 k.childNumber ++ k.chainCode ++ [0] ++ k.keyData) ++
      (doubleSha256 (k.version ++ [UInt8.ofNat k.depth] ++ k.fingerprint ++ ser32 k.childNumber ++ k.chainCode ++ [0]
        ++ k.keyData)).take 4 := by
  unfold ExtKey.marshal ExtKey.isPrivate
  simp only [hv, if_true]
  rw [paddedAppend_eq _ _ (by omega), hkl, List.replicate_zero, List.append_nil]

theorem doubleSha256_length (b : Bytes) : (doubleSha256 b).length = 32 := Nonce.sha256_length _

/-- the fields of the 82-byte layout, read back at the offsets `unmarshal` uses -/
theorem layout (V F S C K CS : Bytes) (d : UInt8) (hV : V.length = 4) (hF : F.length = 4) (hS : S.length = 4)
    (hC : C.length = 32) (hK : K.length = 32) :
    (V ++ [d] ++ F ++ S ++ C ++ [0] ++ K ++ CS).take 78 = V ++ [d] ++ F ++ S ++ C ++ [0] ++ K ∧
    (V ++ [d] ++ F ++ S ++ C ++ [0] ++ K ++ CS).drop 78 = CS ∧
    (V ++ [d] ++ F ++ S ++ C ++ [0] ++ K ++ CS).take 4 = V ∧
    (V ++ [d] ++ F ++ S ++ C ++ [0] ++ K ++ CS).getD 4 0 = d ∧
    ((V ++ [d] ++ F ++ S ++ C ++ [0] ++ K ++ CS).take 9).drop 5 = F ∧
    ((V ++ [d] ++ F ++ S ++ C ++ [0] ++ K ++ CS).take 13).drop 9 = S ∧
    ((V ++ [d] ++ F ++ S ++ C ++ [0] ++ K ++ CS).take 45).drop 13 = C ∧
    ((V ++ [d] ++ F ++ S ++ C ++ [0] ++ K ++ CS).take 78).drop 46 = K ∧
    (V ++ [d] ++ F ++ S ++ C ++ [0] ++ K ++ CS).getD 45 1 = 0 := by
  simp [List.take_append, List.drop_append, List.getD_eq_getElem?_getD, List.getElem?_append,
    List.take_of_length_le, List.drop_of_length_le, hV, hF, hS, hC, hK]

theorem marshal_len_priv (k : ExtKey) (hv : versionIsPrivate k.version = true) (hvl : k.version.length = 4)
    (hf : k.fingerprint.length = 4) (hcc : k.chainCode.length = 32) (hkl : k.keyData.length ≤ 32) :
    k.marshal.length = 82 := by
  have hb : (k.version ++ [UInt8.ofNat k.depth] ++ k.fingerprint ++ ser32 k.childNumber ++ k.chainCode).length = 45 := by
    simp only [List.length_append, hvl, hf, hcc, ser32_length, List.length_cons, List.length_nil]
  unfold ExtKey.marshal ExtKey.isPrivate
  simp only [hv, if_true]
  rw [paddedAppend_eq _ _ (by rw [hb]; omega)]
  simp only [List.length_append, List.length_take, doubleSha256_length, hb, List.length_replicate, List.length_cons,
    List.length_nil]
  omega

/-- the 37-byte HMAC input built by `ChildWithIL` -/
def seedOf (k : ExtKey) (i : Nat) : Bytes :=
  copyAt (if i ≥ 0x80000000 then copyAt (List.replicate 37 (0 : UInt8)) 1 k.keyData
          else copyAt (List.replicate 37 (0 : UInt8)) 0 k.pubKeyBytes) 33 (ser32 i)

/-- CKDpriv.  `I` is HMAC-SHA512 of the 37-byte input `seedOf k i`; nothing is asked of its length or of the index. -/
theorem childWithIL_priv_iff (O : Oracles) (k c : ExtKey) (i il : Nat) (hp : k.isPrivate = true) :
    childWithIL O k i = .ok (il, c) ↔
      k.depth ≠ 255 ∧ il = beNat ((O.hmac512 k.chainCode (seedOf k i)).take 32) ∧ 0 < il ∧ il < N ∧
      c = { version := k.version, depth := k.depth + 1, fingerprint := (O.hash160 k.pubKeyBytes).take 4, childNumber := i,
            keyData := be32 ((il + beNat k.keyData) % N), chainCode := (O.hmac512 k.chainCode (seedOf k i)).drop 32 } := by
  unfold childWithIL hmacCKD
  simp only [hp, Bool.not_true, Bool.false_and, Bool.false_eq_true, if_false, if_true, ← seedOf.eq_1]
  generalize O.hmac512 k.chainCode (seedOf k i) = I
  rw [Bytes.minBytes_pad_eq_be32 (Nat.lt_trans (Nat.mod_lt _ N_pos) Bytes.N_lt_pow)]
  simp only [Bool.not_not, Bool.or_eq_true, decide_eq_true_eq, beq_iff_eq, Except.ite_error_eq_ok, Except.ok.injEq,
    Prod.mk.injEq]
  constructor
  · rintro ⟨hd, hv, rfl, rfl⟩
    exact ⟨hd, rfl, by omega, by omega, rfl⟩
  · rintro ⟨hd, rfl, h0, hN, rfl⟩
    exact ⟨hd, by omega, rfl, rfl⟩

theorem childWithIL_ok_fields (O : Oracles) (k : ExtKey) (i il : Nat) (c : ExtKey)
    (h : childWithIL O k i = .ok (il, c)) :
    k.depth ≠ 255 ∧ c.depth = k.depth + 1 ∧ c.fingerprint = (O.hash160 k.pubKeyBytes).take 4 := by
  -- one exit of the model after the other; every `.error` exit contradicts `h`
  unfold childWithIL at h
  by_cases hd : k.depth = 0xff
  · rw [if_pos hd] at h; cases h
  rw [if_neg hd] at h
  refine ⟨hd, ?_⟩
  dsimp only at h
  by_cases hh : (!k.isPrivate && decide (i ≥ 0x80000000)) = true
  · rw [if_pos hh] at h; cases h
  rw [if_neg hh] at h
  generalize hmacCKD O _ k.chainCode = t at h
  obtain ⟨sk, cc, ok⟩ := t
  dsimp only at h
  by_cases hok : (!ok) = true
  · rw [if_pos hok] at h; cases h
  rw [if_neg hok] at h
  by_cases hp : k.isPrivate = true
  · rw [if_pos hp] at h; cases h; exact ⟨rfl, rfl⟩
  rw [if_neg hp] at h
  split at h
  · cases h
  split at h <;> cases h
  exact ⟨rfl, rfl⟩

theorem pubKeyBytes_priv (k : ExtKey) (hp : k.isPrivate = true) :
    k.pubKeyBytes = serCompressedXY (adaptorBaseMult k.keyData) := by
  unfold ExtKey.pubKeyBytes
  rw [hp]; rfl

theorem pubKeyBytes_pub (k : ExtKey) (hp : k.isPrivate = false) : k.pubKeyBytes = k.keyData := by
  unfold ExtKey.pubKeyBytes
  rw [hp]; rfl

theorem serCompressedXY_length (p : Nat × Nat) : (serCompressedXY p).length = 33 := by
  unfold serCompressedXY
  rw [List.length_cons, Bytes.beBytes_length]

theorem serCompressedXY_eq (x y : Nat) : serCompressedXY (x, y) = serializeCompressed x y := by
  unfold serCompressedXY serializeCompressed be32
  rcases Nat.mod_two_eq_zero_or_one y with h | h <;> simp [h]

theorem seed_eq (z : Nat) (A s : Bytes) (hA : z + A.length = 33) (hs : s.length = 4) :
    copyAt (copyAt (List.replicate 37 (0 : UInt8)) z A) 33 s = List.replicate z 0 ++ A ++ s := by
  rw [← List.nil_append (List.replicate 37 _), Buffers.copyAt_zeros [] 37 z z A (by omega) (Nat.zero_add z).symm,
    Buffers.copyAt_zeros _ _ 0 33 s (by omega) (by simp; omega), show 37 - z - A.length - 0 - s.length = 0 by omega]
  simp only [List.nil_append, List.replicate_zero, List.append_nil]

/-- the buffer is BIP32's input: `0x00 ‖ ser256(k) ‖ ser32(i)` for a hardened index, `serP(K) ‖ ser32(i)` otherwise -/
theorem seedOf_eq (k : ExtKey) (i : Nat) (hl : k.keyData.length = 32) (hpk : k.pubKeyBytes.length = 33) :
    seedOf k i = if i ≥ 2^31 then (0 : UInt8) :: k.keyData ++ ser32 i else k.pubKeyBytes ++ ser32 i := by
  unfold seedOf
  rw [show (2 : Nat) ^ 31 = 0x80000000 by decide]
  split
  · exact seed_eq 1 _ _ (by omega) (ser32_length i)
  · exact seed_eq 0 _ _ (by omega) (ser32_length i)

theorem child_priv_step (O : Oracles) (k c : ExtKey) (i il : Nat) (hp : k.isPrivate = true)
    (h : childWithIL O k i = .ok (il, c)) :
    c.isPrivate = true ∧ beNat c.keyData = (il + beNat k.keyData) % N := by
  obtain ⟨-, -, -, -, rfl⟩ := (childWithIL_priv_iff O k c i il hp).1 h
  exact ⟨hp, Bytes.beNat_be32_of_lt (Nat.lt_trans (Nat.mod_lt _ N_pos) Bytes.N_lt_pow)⟩

/-- the invariant of `deriveWithIL` from a private key of value `k0`: the accumulator is the sum mod N of the `I_L`
    so far (or `none` before the first step), and the current key is `k0` plus it -/
theorem derive_aux (O : Oracles) : ∀ (path : List Nat) (k c : ExtKey) (acc : Option Nat) (k0 t : Nat),
    k.isPrivate = true →
    (match acc with | none => beNat k.keyData = k0 | some a => beNat k.keyData = (k0 + a) % N) →
    deriveWithIL O k path acc = .ok (some t, c) → beNat c.keyData = (k0 + t) % N := by
  intro path
  induction path with
  | nil =>
    intro k c acc k0 t _ hinv h
    unfold deriveWithIL at h
    cases h
    exact hinv
  | cons i rest ih =>
    intro k c acc k0 t hp hinv h
    unfold deriveWithIL at h
    split at h
    · cases h
    rename_i cur ch hc
    obtain ⟨hcp, hck⟩ := child_priv_step O k ch i cur hp hc
    refine ih ch c _ k0 t hcp ?_ h
    cases acc with
    | none => simp only at hinv ⊢; rw [hck, hinv, Nat.add_comm]
    | some a =>
      simp only at hinv ⊢
      rw [hck, hinv, Nat.add_mod_mod, Nat.add_mod_mod, Nat.add_comm cur, Nat.add_assoc]

theorem versionToPublic_cases (v : Bytes) :
    (v = mainnetPriv ∧ versionToPublic v = mainnetPub) ∨ (v = testnetPriv ∧ versionToPublic v = testnetPub) ∨
    (versionIsPrivate v = false ∧ versionToPublic v = v) := by
  unfold versionToPublic versionIsPrivate
  by_cases h1 : v = mainnetPriv
  · left; subst h1; exact ⟨rfl, by decide⟩
  · by_cases h2 : v = testnetPriv
    · right; left; subst h2; exact ⟨rfl, by decide⟩
    · right; right
      have e1 : (v == mainnetPriv) = false := by simpa using h1
      have e2 : (v == testnetPriv) = false := by simpa using h2
      simp [e1, e2]

theorem versionIsPrivate_toPublic (v : Bytes) : versionIsPrivate (versionToPublic v) = false := by
  rcases versionToPublic_cases v with ⟨-, h⟩ | ⟨-, h⟩ | ⟨h1, h⟩
  · rw [h]; decide
  · rw [h]; decide
  · rw [h]; exact h1

theorem versionToPublic_idem (v : Bytes) : versionToPublic (versionToPublic v) = versionToPublic v := by
  rcases versionToPublic_cases v with ⟨-, h⟩ | ⟨-, h⟩ | ⟨h1, h⟩
  · rw [h]; decide
  · rw [h]; decide
  · rw [h, h]

theorem neuter_priv (k : ExtKey) (hp : k.isPrivate = true) :
    k.neuter = { version := versionToPublic k.version, depth := k.depth, fingerprint := k.fingerprint,
                 childNumber := k.childNumber, keyData := k.pubKeyBytes, chainCode := k.chainCode } := by
  unfold ExtKey.neuter
  rw [hp]; rfl

theorem neuter_isPrivate (k : ExtKey) (hp : k.isPrivate = true) : k.neuter.isPrivate = false := by
  rw [neuter_priv k hp]; exact versionIsPrivate_toPublic _

theorem childWithIL_pub_iff (O : Oracles) (k c : ExtKey) (i il : Nat) (hp : k.isPrivate = false) (hi : i < 2^31) :
    childWithIL O k i = .ok (il, c) ↔
      k.depth ≠ 255 ∧ il = beNat ((O.hmac512 k.chainCode (seedOf k i)).take 32) ∧ 0 < il ∧ il < N ∧
      (adaptorBaseMult ((O.hmac512 k.chainCode (seedOf k i)).take 32)).1 ≠ 0 ∧
      (adaptorBaseMult ((O.hmac512 k.chainCode (seedOf k i)).take 32)).2 ≠ 0 ∧
      ∃ pub, parsePubKey k.keyData = .ok pub ∧
        c = { version := versionToPublic k.version, depth := k.depth + 1, fingerprint := (O.hash160 k.pubKeyBytes).take 4,
              childNumber := i,
              keyData := serializeCompressed
                (bigToField (adaptorAdd (adaptorBaseMult ((O.hmac512 k.chainCode (seedOf k i)).take 32)) pub).1)
                (bigToField (adaptorAdd (adaptorBaseMult ((O.hmac512 k.chainCode (seedOf k i)).take 32)) pub).2),
              chainCode := (O.hmac512 k.chainCode (seedOf k i)).drop 32 } := by
  have hh : ¬ i ≥ 0x80000000 := by omega
  unfold childWithIL hmacCKD
  simp only [← seedOf.eq_1]
  simp only [hp, hh, decide_false, Bool.and_false, Bool.false_eq_true, if_false]
  generalize O.hmac512 k.chainCode (seedOf k i) = I
  simp only [Bool.not_not, Bool.or_eq_true, decide_eq_true_eq, beq_iff_eq, Except.ite_error_eq_ok, not_or]
  cases parsePubKey k.keyData with
  | ok pub =>
    simp only [Except.ok.injEq, Prod.mk.injEq, Outcome.ok.injEq, exists_eq_left']
    constructor
    · rintro ⟨hd, hv, h12, rfl, rfl⟩
      exact ⟨hd, rfl, by omega, by omega, h12.1, h12.2, rfl⟩
    · rintro ⟨hd, rfl, h0, hN, h1, h2, rfl⟩
      exact ⟨hd, by omega, ⟨h1, h2⟩, rfl, rfl⟩
  | _ => simp

theorem seedOf_neuter (k : ExtKey) (i : Nat) (hp : k.isPrivate = true) (hi : i < 2^31) :
    seedOf k.neuter i = seedOf k i := by
  have hh : ¬ i ≥ 0x80000000 := by omega
  unfold seedOf
  rw [if_neg hh, if_neg hh, pubKeyBytes_pub _ (neuter_isPrivate k hp), neuter_priv k hp]

theorem valid_of_onCurve {x y : Nat} (h : OnCurve x y) : Valid (some (x, y)) := h
theorem onCurve_of_valid {x y : Nat} (h : Valid (some (x, y))) : OnCurve x y := h

theorem add_smul_G (a b : Nat) : Pt.add (smul a G) (smul b G) = smul ((a + b) % N) G := by
  rw [smul_mod_N_G, ScalarMultJac.add_smul_smul valid_G]

theorem baseMult_spec (hp : PointSpec) (b : Bytes) (h0 : 0 < beNat b) (hN : beNat b < N) :
    ∃ x y, OnCurve x y ∧ smul (beNat b) G = some (x, y) ∧ adaptorBaseMult b = (x, y) := by
  obtain ⟨x, y, hs, hon⟩ := Ecdh.pubkey_finite (beNat b) h0 hN
  exact ⟨x, y, hon, hs, by rw [Adaptor.scalarBaseMult_spec hp, Nat.mod_eq_of_lt hN, hs]; rfl⟩

theorem adaptorAdd_spec (hp : PointSpec) {x1 y1 x2 y2 x3 y3 : Nat} (h1 : OnCurve x1 y1) (h2 : OnCurve x2 y2)
    (hs : Pt.add (some (x1, y1)) (some (x2, y2)) = some (x3, y3)) :
    adaptorAdd (x1, y1) (x2, y2) = (x3, y3) := by
  rw [Adaptor.add_spec hp _ _ (.inr h1) (.inr h2), (Adaptor.ptOfXY_onCurve (p := (x1, y1)) h1).2,
    (Adaptor.ptOfXY_onCurve (p := (x2, y2)) h2).2, hs]
  rfl

end Secp.Proofs.Bip32
