import Secp.Model.Bip32
import Secp.Model.Nonce
import Secp.Model.PrivKey
import Secp.Proofs.Bytes
/-
  Proofs/Buffers — stores into byte buffers: the model's `copyAt` / `copyInto` and the one shape pass T8 emits
  for every store `copy(dst[off:], src)` / `PutBytesUnchecked(dst[off:off+n])`,
      dst.take off ++ src.take n ++ dst.drop (off + n)
  with `n` the number of bytes Go copies.  `write_eq_copyAt` says the two are the same; every buffer of the
  modelled functions is a zeroed array filled from left to right, which is `copyAt_zeros`; `write_zeros` /
  `write_tail` / `write_full` are its instances in the shape the generated text has.  Then the load that follows a
  store into a 32-byte buffer, and `SetByteSlice`'s truncate-and-pad.  Nothing here mentions a generated definition.
  (The builders of pass T7 write a window with `putBytes` instead; their lemmas are in Proofs/BytesBuild.lean.)
-/
namespace Secp.Proofs.Buffers
open Secp.Spec Secp.Model

theorem write_eq_copyAt (dst src : Bytes) (off n : Nat) (hn : n = min (dst.length - off) src.length) :
    dst.take off ++ src.take n ++ dst.drop (off + n) = copyAt dst off src := by
  subst hn
  unfold copyAt
  congr 1
  · congr 1
    by_cases h : dst.length - off ≤ src.length
    · rw [Nat.min_eq_left h]
    · rw [Nat.min_eq_right (by omega), List.take_of_length_le (by omega), List.take_of_length_le (by omega)]
  · by_cases h : off ≤ dst.length
    · congr 1; omega
    · rw [List.drop_of_length_le (by omega), List.drop_of_length_le (by omega)]

/-- Go `copy(dst[off:], src)` as generated -/
theorem copy_eq_copyAt (dst src : Bytes) (off : Nat) :
    dst.take off ++ src.take (min (dst.drop off).length src.length) ++
      dst.drop (off + min (dst.drop off).length src.length) = copyAt dst off src :=
  write_eq_copyAt dst src off _ (by rw [List.length_drop])

/-- the same at offset 0, where the translator writes `dst.length` for `(dst.drop 0).length` -/
theorem copy0_eq_copyAt (dst src : Bytes) :
    dst.take 0 ++ src.take (min dst.length src.length) ++ dst.drop (0 + min dst.length src.length) =
      copyAt dst 0 src :=
  write_eq_copyAt dst src 0 _ rfl

theorem copyInto_eq_copyAt (dst src : Bytes) : copyInto dst src = copyAt dst 0 src := by
  unfold copyInto copyAt
  rw [List.take_zero, List.nil_append, Nat.sub_zero, Nat.zero_add, Nat.min_comm]

theorem copyAt_length (dst src : Bytes) (off : Nat) (h : off ≤ dst.length) :
    (copyAt dst off src).length = dst.length := by
  unfold copyAt
  simp only [List.length_append, List.length_take, List.length_drop]
  omega

theorem copyInto_length (dst src : Bytes) : (copyInto dst src).length = dst.length := by
  rw [copyInto_eq_copyAt, copyAt_length _ _ _ (Nat.zero_le _)]

theorem copyInto_zeros (key : Bytes) (hk : key.length ≤ 64) :
    copyInto (zeros 64) key = key ++ List.replicate (64 - key.length) 0 := by
  unfold copyInto zeros
  rw [List.length_replicate, List.take_of_length_le hk, Nat.min_eq_left hk, List.drop_replicate]

theorem copyAt_zero_full (dst src : Bytes) (h : src.length = dst.length) : copyAt dst 0 src = src := by
  unfold copyAt
  rw [List.take_zero, List.nil_append, Nat.sub_zero, Nat.zero_add, List.take_of_length_le (Nat.le_of_eq h),
    List.drop_of_length_le (by omega), List.append_nil]

theorem copyAt_zeros (A : Bytes) (m z off : Nat) (src : Bytes) (h : z + src.length ≤ m)
    (hoff : off = A.length + z) :
    copyAt (A ++ List.replicate m (0 : UInt8)) off src
      = (A ++ List.replicate z 0 ++ src) ++ List.replicate (m - z - src.length) 0 := by
  subst hoff
  unfold copyAt
  have e1 : (A ++ List.replicate m (0 : UInt8)).take (A.length + z) = A ++ List.replicate z 0 := by
    rw [List.take_append, List.take_of_length_le (by omega)]
    simp only [Nat.add_sub_cancel_left, List.take_replicate]
    congr 2; omega
  have e2 : src.take ((A ++ List.replicate m (0 : UInt8)).length - (A.length + z)) = src := by
    apply List.take_of_length_le
    simp only [List.length_append, List.length_replicate]; omega
  have e3 : (A ++ List.replicate m (0 : UInt8)).drop
      (min (A ++ List.replicate m (0 : UInt8)).length (A.length + z + src.length))
      = List.replicate (m - z - src.length) 0 := by
    rw [Nat.min_eq_right (by simp only [List.length_append, List.length_replicate]; omega)]
    rw [List.drop_append, List.drop_of_length_le (by omega)]
    simp only [List.nil_append, List.drop_replicate]
    congr 1; omega
  rw [e1, e2, e3]

/-- the hypotheses are the three `let`s of one generated store, `n := min …; kb' := …; off' := off + n` -/
theorem store_step {kb kb' A src : Bytes} {m z off n off' : Nat}
    (hkb : kb = A ++ List.replicate m (0 : UInt8)) (hoff : off = A.length + z) (h : z + src.length ≤ m)
    (hn : n = min (kb.drop off).length src.length)
    (hkb' : kb' = kb.take off ++ src.take n ++ kb.drop (off + n)) (hoff' : off' = off + n) :
    kb' = (A ++ List.replicate z 0 ++ src) ++ List.replicate (m - z - src.length) 0 ∧
      off' = (A ++ List.replicate z 0 ++ src).length := by
  have hl : n = src.length := by
    rw [hn, hkb, List.length_drop, List.length_append, List.length_replicate]; omega
  subst hkb' hoff' hkb
  constructor
  · rw [write_eq_copyAt _ _ _ _ (by rw [hl, List.length_append, List.length_replicate]; omega),
      copyAt_zeros A m z off src h hoff]
  · rw [hl, hoff, List.length_append, List.length_append, List.length_replicate]

/-- reading back the filled part, `kb[:off]` as generated -/
theorem take_filled {kb K : Bytes} {m off : Nat} (hkb : kb = K ++ List.replicate m (0 : UInt8))
    (hoff : off = K.length) : (kb.take off).drop 0 = K := by
  subst hkb hoff; simp

theorem write_tail (A src : Bytes) (m off n : Nat) (hoff : off = A.length) (hn : n = src.length) (h : n ≤ m) :
    (A ++ List.replicate m (0 : UInt8)).take off ++ src.take n ++ (A ++ List.replicate m (0 : UInt8)).drop (off + n)
      = (A ++ src) ++ List.replicate (m - n) 0 := by
  subst hn
  rw [write_eq_copyAt _ _ _ _ (by simp only [List.length_append, List.length_replicate]; omega),
    copyAt_zeros A m 0 off src (by omega) (by omega)]
  simp

theorem write_zeros (src : Bytes) (m off n : Nat) (hn : n = src.length) (h : off + n ≤ m) :
    (List.replicate m (0 : UInt8)).take off ++ src.take n ++ (List.replicate m (0 : UInt8)).drop (off + n)
      = (List.replicate off 0 ++ src) ++ List.replicate (m - off - n) 0 := by
  subst hn
  rw [write_eq_copyAt _ _ _ _ (by simp only [List.length_replicate]; omega)]
  simpa using copyAt_zeros [] m off off src (by omega) (by simp)

/-- `PutBytesUnchecked(buf[:])`: the whole of a fresh array -/
theorem write_full (src : Bytes) (n : Nat) (h : src.length = n) :
    (List.replicate n (0 : UInt8)).take 0 ++ src.take n ++ (List.replicate n (0 : UInt8)).drop (0 + n) = src := by
  rw [write_zeros src n 0 n h.symm (by omega)]
  simp

/- `ModNScalar.SetByteSlice`.  The models have this function under five names: `scalarSetByteSlice` itself, `commitScalar` (the same),
  `hashScalar` and `privKeyFromBytes` (its first component), `scalarSetBytes32` (without the truncation).  The bridges
  are `Schnorr.commitScalar_32`, `Ecdsa.hashScalar_eq`, `PrivKey.fromBytes_mod`, `scalarSetBytes32_eq` below. -/

theorem scalarSetByteSlice_of_le (b : Bytes) (h : b.length ≤ 32) :
    scalarSetByteSlice b = (if beNat b ≥ N then beNat b - N else beNat b, decide (beNat b ≥ N)) := by
  unfold scalarSetByteSlice
  rw [List.take_of_length_le h]

theorem scalarSetBytes32_eq (b : Bytes) (hb : b.length ≤ 32) : scalarSetBytes32 b = scalarSetByteSlice b :=
  (scalarSetByteSlice_of_le b hb).symm

theorem scalarSetByteSlice_be32 {v : Nat} (hv : v < 2 ^ 256) :
    scalarSetByteSlice (be32 v) = (if v ≥ N then v - N else v, decide (v ≥ N)) := by
  rw [scalarSetByteSlice_of_le _ (Nat.le_of_eq (Bytes.be32_length v)), Bytes.beNat_be32_of_lt hv]

theorem scalarSetByteSlice_be32_of_lt_N (r : Nat) (hr : r < N) : scalarSetByteSlice (be32 r) = (r, false) := by
  rw [scalarSetByteSlice_be32 (Nat.lt_trans hr Bytes.N_lt_pow), if_neg (Nat.not_le.2 hr), decide_eq_false (Nat.not_le.2 hr)]

theorem scalarSetByteSlice_minBytes {x : Nat} (hx : x < N) : (scalarSetByteSlice (minBytes x)).1 = x := by
  unfold scalarSetByteSlice
  simp only [Bytes.minBytes_take32 (Nat.lt_trans hx Bytes.N_lt_pow)]
  rw [if_neg (Nat.not_le.2 hx)]

theorem beNat_take32_lt (b : Bytes) : beNat (b.take 32) < 2 * N := by
  have h := Bytes.beNat_lt (b.take 32)
  have h2 : 256 ^ (b.take 32).length ≤ 256 ^ 32 :=
    Nat.pow_le_pow_right (by omega) (List.length_take_le 32 b)
  have h3 : 256 ^ 32 < 2 * N := Bytes.pow_lt_two_N
  omega

theorem scalarSetByteSlice_fst (b : Bytes) : (scalarSetByteSlice b).1 = beNat (b.take 32) % N :=
  (Bytes.mod_N_of_lt (beNat_take32_lt b)).symm

theorem scalarSetByteSlice_pad (b : Bytes) :
    scalarSetByteSlice (List.replicate (32 - min b.length 32) 0 ++ b.take 32) = scalarSetByteSlice b := by
  unfold scalarSetByteSlice
  rw [List.take_of_length_le (by simp; omega), Bytes.beNat_zeros_append]

/-- the truncation `b = b[:min(len(b), 32)]` as pass T8 writes it -/
theorem trunc_eq (b : Bytes) (hb : b.length < 2 ^ 32) :
    ((b.take (min (b.length % 4294967296) 32)).drop 0) = b.take 32 := by
  rw [Nat.mod_eq_of_lt (by simpa using hb), List.drop_zero, Nat.min_comm, ← List.take_eq_take_min]

/-- `copy(b32, b32[:32-len(b)])` then `copy(b32[32-len(b):], b)` left-pads `b` with zeros.  The left-hand side is the
    text of the four `let`s that follow the truncation in `Gen.Drivers.scalarSetByteSliceGen` and `fieldSetByteSliceGen`
    (with `c` for the truncated `b`), so that `C05.setByteSlice_wrapper` and `C06.setByteSlice_wrapper` can rewrite with
    it; when gotr words those `let`s differently the two wrappers fail and the text is to be copied here again. -/
theorem pad_eq (c : Bytes) (hc : c.length ≤ 32) :
    (let b32 := (List.replicate 32 (0 : UInt8))
     let n1 := min b32.length ((b32.take (32 - c.length)).drop 0).length
     let b32 := (b32.take 0 ++ (((b32.take (32 - c.length)).drop 0)).take n1 ++ b32.drop (0 + n1))
     let n2 := min (b32.drop (32 - c.length)).length c.length
     (b32.take (32 - c.length) ++ (c).take n2 ++ b32.drop ((32 - c.length) + n2)))
      = leftPad 32 c := by
  -- `simp` leaves `replicate x 0 ++ c.take y ++ replicate z 0` with `min`/`-` expressions for `x y z`; `e` hands their
  -- values to `omega`
  have e : ∀ x y z : Nat, x = 32 - c.length → y = c.length → z = 0 →
      List.replicate x (0 : UInt8) ++ c.take y ++ List.replicate z (0 : UInt8)
        = List.replicate (32 - c.length) (0 : UInt8) ++ c := by
    intro x y z hx hy hz
    subst hx hy hz
    rw [List.take_length, List.replicate_zero, List.append_nil]
  simp only [List.length_replicate, List.take_replicate, List.drop_replicate, Nat.zero_add,
    List.replicate_append_replicate, leftPad]
  apply e <;> omega

theorem beNat_leftPad_take (c : Bytes) (hc : c.length ≤ 32) : beNat ((leftPad 32 c).take 32) = beNat c := by
  rw [List.take_of_length_le (Nat.le_of_eq (Bytes.leftPad_length 32 c hc)), Bytes.beNat_leftPad]

end Secp.Proofs.Buffers
