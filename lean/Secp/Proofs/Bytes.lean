import Secp.Spec.Der
/-
  Proofs/Bytes — the lemmas of the byte-string functions of `Spec.Basic` / `Spec.Der`: `beNat`, `stripZeros`,
  `leftPad`, `natBytes`, `beBytes`, `be32`, `minBytes`, and the size of the two moduli.  `beBytes n` and `beNat` are
  inverse bijections between the numbers below 256^n and the strings of length n (`beBytes_eq_iff`, `be32_eq_iff`,
  `be32_append_eq_iff`): every fixed-width codec (SEC1 keys, compact and Schnorr signatures, BIP32 key data) rests on
  these.  Core-only.
-/
namespace Secp.Proofs.Bytes
open Secp.Spec

theorem foldl_acc (b : Bytes) (acc : Nat) :
    b.foldl (fun acc (x : UInt8) => acc * 256 + x.toNat) acc
      = acc * 256 ^ b.length + b.foldl (fun acc (x : UInt8) => acc * 256 + x.toNat) 0 := by
  induction b generalizing acc with
  | nil => simp
  | cons x xs ih =>
    simp only [List.foldl_cons, List.length_cons]
    rw [ih (acc * 256 + x.toNat), ih (0 * 256 + x.toNat)]
    simp only [Nat.zero_mul, Nat.zero_add, Nat.pow_succ, Nat.add_mul]
    rw [Nat.mul_assoc, Nat.mul_comm 256, Nat.add_assoc]

theorem beNat_nil : beNat [] = 0 := rfl

theorem beNat_cons (x : UInt8) (xs : Bytes) :
    beNat (x :: xs) = x.toNat * 256 ^ xs.length + beNat xs := by
  unfold beNat
  rw [List.foldl_cons, foldl_acc]
  simp

theorem beNat_append (a b : Bytes) :
    beNat (a ++ b) = beNat a * 256 ^ b.length + beNat b := by
  unfold beNat
  rw [List.foldl_append, foldl_acc]

theorem beNat_snoc (a : Bytes) (x : UInt8) : beNat (a ++ [x]) = beNat a * 256 + x.toNat := by
  rw [beNat_append, beNat_cons]; simp [beNat_nil]

theorem beNat_lt (b : Bytes) : beNat b < 256 ^ b.length := by
  induction b with
  | nil => simp [beNat_nil]
  | cons x xs ih =>
    rw [beNat_cons, List.length_cons, Nat.pow_succ]
    have hx : x.toNat < 256 := x.toNat_lt
    have : x.toNat * 256 ^ xs.length ≤ 255 * 256 ^ xs.length := Nat.mul_le_mul_right _ (by omega)
    omega

theorem beNat_zero_cons (xs : Bytes) : beNat ((0 : UInt8) :: xs) = beNat xs := by
  rw [beNat_cons]; simp

theorem beNat_stripZeros (b : Bytes) : beNat (stripZeros b) = beNat b := by
  induction b with
  | nil => rfl
  | cons x xs ih =>
    unfold stripZeros
    split
    · rename_i h; subst h; rw [ih, beNat_zero_cons]
    · rfl

theorem stripZeros_length_le (b : Bytes) : (stripZeros b).length ≤ b.length := by
  induction b with
  | nil => simp [stripZeros]
  | cons x xs ih =>
    unfold stripZeros
    split
    · simp; omega
    · simp

theorem beNat_ge_of_head_ne (x : UInt8) (xs : Bytes) (hx : x ≠ 0) :
    256 ^ xs.length ≤ beNat (x :: xs) := by
  rw [beNat_cons]
  have : x.toNat ≠ 0 := by
    intro h; apply hx; exact UInt8.toNat_inj.1 (by simpa using h)
  have : 1 * 256 ^ xs.length ≤ x.toNat * 256 ^ xs.length := Nat.mul_le_mul_right _ (by omega)
  omega

theorem stripZeros_head (b : Bytes) : stripZeros b = [] ∨ ∃ x xs, stripZeros b = x :: xs ∧ x ≠ 0 := by
  induction b with
  | nil => left; rfl
  | cons x xs ih =>
    unfold stripZeros
    split
    · exact ih
    · right; exact ⟨x, xs, rfl, by assumption⟩

theorem stripZeros_of_head_ne (x : UInt8) (xs : Bytes) (hx : x ≠ 0) : stripZeros (x :: xs) = x :: xs := by
  unfold stripZeros; simp [hx]

theorem stripZeros_zero_cons (xs : Bytes) : stripZeros ((0 : UInt8) :: xs) = stripZeros xs := by
  rw [stripZeros]; simp

theorem stripZeros_eq_nil_iff (b : Bytes) : stripZeros b = [] ↔ beNat b = 0 := by
  constructor
  · intro h; rw [← beNat_stripZeros, h]; rfl
  · intro h
    rcases stripZeros_head b with h' | ⟨x, xs, h', hx⟩
    · exact h'
    · have := beNat_ge_of_head_ne x xs hx
      rw [← h', beNat_stripZeros, h] at this
      have : 0 < 256 ^ xs.length := Nat.pow_pos (by omega)
      omega

theorem stripZeros_snoc (a : Bytes) (x : UInt8) (h : beNat (a ++ [x]) ≠ 0) :
    stripZeros (a ++ [x]) = stripZeros a ++ [x] := by
  induction a with
  | nil =>
    have hx : x ≠ 0 := by
      intro hx; subst hx; exact h (by decide)
    simp [stripZeros, hx]
  | cons y ys ih =>
    by_cases hy : y = 0
    · subst hy
      rw [List.cons_append, stripZeros_zero_cons, stripZeros_zero_cons]
      apply ih
      rwa [List.cons_append, beNat_zero_cons] at h
    · rw [List.cons_append, stripZeros_of_head_ne _ _ hy, stripZeros_of_head_ne _ _ hy]
      rfl

theorem beNat_zeros_append (n : Nat) (l : Bytes) :
    beNat (List.replicate n (0 : UInt8) ++ l) = beNat l := by
  induction n with
  | zero => rw [List.replicate_zero, List.nil_append]
  | succ n ih => rw [List.replicate_succ, List.cons_append, beNat_zero_cons, ih]

theorem take_succ_getD (l : Bytes) (n : Nat) (h : n < l.length) :
    l.take (n + 1) = l.take n ++ [l.getD n 0] := by
  rw [List.take_succ_eq_append_getElem h, List.getD_eq_getElem?_getD, List.getElem?_eq_getElem h]
  rfl

theorem beNat_take_succ (l : Bytes) (n : Nat) (h : n < l.length) :
    beNat (l.take (n + 1)) = beNat (l.take n) * 256 + (l.getD n 0).toNat := by
  rw [take_succ_getD l n h, beNat_snoc]

theorem leftPad_length (n : Nat) (b : Bytes) (h : b.length ≤ n) : (leftPad n b).length = n := by
  simp only [leftPad, List.length_append, List.length_replicate]; omega

theorem beNat_leftPad (n : Nat) (b : Bytes) : beNat (leftPad n b) = beNat b :=
  beNat_zeros_append _ _

theorem natBytes_zero : natBytes 0 = [] := by
  rw [natBytes]; simp

theorem natBytes_pos (n : Nat) (h : n ≠ 0) :
    natBytes n = natBytes (n / 256) ++ [UInt8.ofNat (n % 256)] := by
  rw [natBytes]; simp [h]

theorem snoc_induction {P : Bytes → Prop} (nil : P []) (snoc : ∀ a x, P a → P (a ++ [x])) :
    ∀ b, P b := by
  have h : ∀ b : Bytes, P b.reverse := by
    intro b
    induction b with
    | nil => exact nil
    | cons x xs ih => rw [List.reverse_cons]; exact snoc _ _ ih
  intro b
  have := h b.reverse
  rwa [List.reverse_reverse] at this

theorem natBytes_beNat (b : Bytes) : natBytes (beNat b) = stripZeros b := by
  induction b using snoc_induction with
  | nil => rw [beNat_nil, natBytes_zero]; rfl
  | snoc a x ih =>
    by_cases h : beNat (a ++ [x]) = 0
    · rw [h, natBytes_zero]; exact ((stripZeros_eq_nil_iff _).2 h).symm
    · rw [natBytes_pos _ h, stripZeros_snoc _ _ h, beNat_snoc]
      have hx : x.toNat < 256 := x.toNat_lt
      have h1 : (beNat a * 256 + x.toNat) / 256 = beNat a := by omega
      have h2 : (beNat a * 256 + x.toNat) % 256 = x.toNat := by omega
      rw [h1, h2, ih, UInt8.ofNat_toNat]

theorem beNat_natBytes (n : Nat) : beNat (natBytes n) = n := by
  induction n using Nat.strongRecOn with
  | _ n ih =>
    by_cases h : n = 0
    · subst h; rw [natBytes_zero]; rfl
    · rw [natBytes_pos _ h, beNat_snoc, ih (n / 256) (by omega)]
      have : (UInt8.ofNat (n % 256)).toNat = n % 256 := by
        rw [UInt8.toNat_ofNat']; omega
      rw [this]; omega

theorem stripZeros_natBytes (n : Nat) : stripZeros (natBytes n) = natBytes n := by
  conv => rhs; rw [← beNat_natBytes n]
  rw [natBytes_beNat]

theorem beBytes_length (len n : Nat) : (beBytes len n).length = len := by
  induction len generalizing n with
  | zero => rfl
  | succ k ih => simp [beBytes, ih]

theorem beNat_beBytes (len n : Nat) : beNat (beBytes len n) = n % 256 ^ len := by
  induction len generalizing n with
  | zero => simp [beBytes, beNat_nil, Nat.mod_one]
  | succ k ih =>
    rw [beBytes, beNat_snoc, ih, UInt8.toNat_ofNat']
    have h1 : n % 256 % 2 ^ 8 = n % 256 := by omega
    have h2 : n % 256 ^ (k + 1) = n % 256 + 256 * (n / 256 % 256 ^ k) := by
      rw [show (256 : Nat) ^ (k + 1) = 256 * 256 ^ k from Nat.pow_succ', Nat.mod_mul]
    rw [h1, h2]; omega

theorem be32_length (v : Nat) : (be32 v).length = 32 := beBytes_length 32 v

theorem beNat_be32 (v : Nat) : beNat (be32 v) = v % 2 ^ 256 := by
  unfold be32; rw [beNat_beBytes]

theorem take_be32 (v k : Nat) (hk : 32 ≤ k) : (be32 v).take k = be32 v :=
  List.take_of_length_le (by rw [be32_length]; exact hk)

/- Bounds on 32-byte values are spelt `2 ^ 256`; `beBytes n` speaks of `256 ^ n`.  For n = 32 the two
   numerals are equal by evaluation, so a bound in one spelling is accepted where the other is expected. -/

theorem N_lt_pow : N < 2 ^ 256 := by decide
theorem P_lt_pow : P < 2 ^ 256 := by decide
theorem pow_lt_two_N : 2 ^ 256 < 2 * N := by decide
theorem halfN_eq : 2 * halfN + 1 = N := by decide

theorem mod_N_of_lt {v : Nat} (h : v < 2 * N) : v % N = if v ≥ N then v - N else v := by
  split
  · rename_i hv; rw [Nat.mod_eq_sub_mod hv, Nat.mod_eq_of_lt (by omega)]
  · exact Nat.mod_eq_of_lt (by omega)

theorem beBytes_beNat (b : Bytes) : beBytes b.length (beNat b) = b := by
  induction b using snoc_induction with
  | nil => rfl
  | snoc a x ih =>
    have hx : x.toNat < 256 := x.toNat_lt
    rw [List.length_append, List.length_singleton, beBytes, beNat_snoc,
      show (beNat a * 256 + x.toNat) / 256 = beNat a by omega,
      show (beNat a * 256 + x.toNat) % 256 = x.toNat by omega, ih, UInt8.ofNat_toNat]

theorem beBytes_eq_iff {n v : Nat} {t : Bytes} (hv : v < 256 ^ n) :
    beBytes n v = t ↔ t.length = n ∧ beNat t = v := by
  constructor
  · rintro rfl; exact ⟨beBytes_length n v, by rw [beNat_beBytes, Nat.mod_eq_of_lt hv]⟩
  · rintro ⟨rfl, rfl⟩; exact beBytes_beNat t

theorem be32_eq_iff {v : Nat} {t : Bytes} (hv : v < 2 ^ 256) : be32 v = t ↔ t.length = 32 ∧ beNat t = v :=
  beBytes_eq_iff (n := 32) hv

theorem beNat_be32_of_lt {v : Nat} (hv : v < 2 ^ 256) : beNat (be32 v) = v :=
  ((be32_eq_iff hv).1 rfl).2

theorem be32_beNat {b : Bytes} (h : b.length = 32) : be32 (beNat b) = b := by
  rw [be32, ← h, beBytes_beNat]

theorem be32_append_eq_iff {x y : Nat} {t : Bytes} (hx : x < 2 ^ 256) (hy : y < 2 ^ 256) :
    be32 x ++ be32 y = t ↔ t.length = 64 ∧ beNat (t.take 32) = x ∧ beNat (t.drop 32) = y := by
  constructor
  · rintro rfl
    rw [List.take_left' (be32_length x), List.drop_left' (be32_length x), List.length_append, be32_length,
      be32_length]
    exact ⟨rfl, beNat_be32_of_lt hx, beNat_be32_of_lt hy⟩
  · rintro ⟨hl, rfl, rfl⟩
    rw [(be32_eq_iff hx).2 ⟨by rw [List.length_take]; omega, rfl⟩,
      (be32_eq_iff hy).2 ⟨by rw [List.length_drop]; omega, rfl⟩, List.take_append_drop]

theorem stripZeros_length_of_lt (b : Bytes) (n : Nat) (h : beNat b < 256 ^ n) : (stripZeros b).length ≤ n := by
  rcases stripZeros_head b with h' | ⟨x, xs, h', hx⟩
  · rw [h']; exact Nat.zero_le _
  · have h1 := beNat_ge_of_head_ne x xs hx
    rw [← h', beNat_stripZeros] at h1
    rw [h']
    simp only [List.length_cons]
    have h3 : xs.length < n := (Nat.pow_lt_pow_iff_right (by omega)).1 (Nat.lt_of_le_of_lt h1 h)
    omega

theorem beNat_minBytes {v : Nat} (hv : v < 2 ^ 256) : beNat (minBytes v) = v := by
  unfold minBytes
  rw [beNat_stripZeros, beNat_beBytes, Nat.mod_eq_of_lt (Nat.lt_trans hv (by decide))]

theorem minBytes_length_le {v : Nat} (hv : v < 2 ^ 256) : (minBytes v).length ≤ 32 := by
  apply stripZeros_length_of_lt
  rw [beNat_beBytes, Nat.mod_eq_of_lt (Nat.lt_trans hv (by decide))]
  exact hv

theorem minBytes_take32 {v : Nat} (hv : v < 2 ^ 256) : beNat ((minBytes v).take 32) = v := by
  rw [List.take_of_length_le (minBytes_length_le hv), beNat_minBytes hv]

/-- the left side is the two `kd` lets of `Model.childWithIL` (the Go code left-pads `big.Int.Bytes()`) -/
theorem minBytes_pad_eq_be32 {v : Nat} (hv : v < 2 ^ 256) :
    (if (minBytes v).length < 32 then List.replicate (32 - (minBytes v).length) 0 ++ minBytes v else minBytes v)
      = be32 v := by
  have hl := minBytes_length_le hv
  refine ((be32_eq_iff hv).2 ?_).symm
  split
  · exact ⟨by rw [List.length_append, List.length_replicate]; omega, by rw [beNat_zeros_append, beNat_minBytes hv]⟩
  · exact ⟨by omega, beNat_minBytes hv⟩

end Secp.Proofs.Bytes
