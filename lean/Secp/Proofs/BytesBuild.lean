import Secp.Gen.BytesBuild
import Secp.Proofs.Bytes
/-
  Proofs/BytesBuild — lemmas for the serialisers regenerated from the Go source (`Secp/Gen/BytesBuild.lean`,
  pass T7 "builders"); that each equals its hand-written model is `C08.serializeCompressed_regenerated`,
  `serializeUncompressed_regenerated`, `C09.serializeDER_regenerated`, `C11.schnorrSerialize_regenerated`.  Core only.

  The generated text is a chain of `let`s over `Bytes = List UInt8`: buffers are created with
  `List.replicate`, single bytes are stored with `List.set`, windows are overwritten with
  `putBytes` (pass T8 writes a store as `take ++ take ++ drop` instead: Proofs/Buffers.lean).  Those proofs do not
  depend on the names of the temporaries or on the number of `let`s: the definitions are unfolded, `putBytes` is
  replaced by its `take ++ src ++ drop` form (`putBytes_eq`, needs only that the source fills the window exactly) and
  the resulting `take`/`drop`/`set` of `replicate`/`++` terms are normalised by general list lemmas.
-/
namespace Secp.Proofs.BytesBuild
open Secp.Spec Secp.Model Secp.Gen.BytesBuild

theorem putBytes_eq (b src : Bytes) (lo hi : Nat) (h : src.length = hi - lo) :
    putBytes b lo hi src = b.take lo ++ src ++ b.drop hi := by
  unfold putBytes
  rw [List.take_of_length_le (Nat.le_of_eq h)]

theorem putBytes_replicate (n lo hi : Nat) (z : UInt8) (src : Bytes)
    (h : src.length = hi - lo) (hlo : lo ≤ n) :
    putBytes (List.replicate n z) lo hi src
      = List.replicate lo z ++ src ++ List.replicate (n - hi) z := by
  rw [putBytes_eq _ _ _ _ h, List.take_replicate, List.drop_replicate, Nat.min_eq_left hlo]

theorem putBytes_window (pre mid post src : Bytes) (lo hi : Nat)
    (hpre : pre.length = lo) (hmid : mid.length = hi - lo) (hsrc : src.length = hi - lo)
    (hle : lo ≤ hi) :
    putBytes (pre ++ mid ++ post) lo hi src = pre ++ src ++ post := by
  rw [putBytes_eq _ _ _ _ hsrc, List.append_assoc pre mid post, List.take_left' hpre]
  have h2 : (pre ++ (mid ++ post)).drop hi = post := by
    rw [← List.append_assoc]
    exact List.drop_left' (by rw [List.length_append, hpre, hmid]; omega)
  rw [h2]

theorem set_zero_replicate (n : Nat) (z a : UInt8) (hn : 0 < n) :
    (List.replicate n z).set 0 a = a :: List.replicate (n - 1) z := by
  cases n with
  | zero => omega
  | succ k => rfl

theorem set_zero_eq (b : Bytes) (a : UInt8) (hb : b ≠ []) : b.set 0 a = a :: b.drop 1 := by
  cases b with
  | nil => exact absurd rfl hb
  | cons x xs => rfl

/-- the 33-byte scratch buffer `0x00 ‖ be32 v` of `Signature.Serialize`, canonicalised -/
theorem canonLoop_buf (v : Nat) :
    canonLoop (putBytes (List.replicate 33 0) 1 33 (be32 v)) = canonInt v := by
  rw [putBytes_replicate 33 1 33 0 (be32 v) (Secp.Proofs.Bytes.be32_length v) (by decide)]
  have h : List.replicate 1 (0 : UInt8) ++ be32 v ++ List.replicate (33 - 33) 0
      = (0 : UInt8) :: be32 v := by
    simp only [Nat.sub_self, List.replicate_zero, List.append_nil, List.replicate_one,
      List.singleton_append]
  rw [h, canonInt]

/-- the low-s selection of the Go code equals that of the model on reduced scalars: Go's `ModNScalar.Negate` is
    `(N - s) % N`, which on a reduced, high `s` is `N - s` -/
theorem lowS_eq (s : Nat) (hs : s < N) :
    (if decide (s > halfN) = true then (N - s) % N else s) = (if s > halfN then N - s else s) := by
  by_cases hh : s > halfN
  · rw [if_pos (decide_eq_true hh), if_pos hh, Nat.mod_eq_of_lt (by omega)]
  · rw [if_neg (by simpa using hh), if_neg hh]

/-- the sequence length byte: `totalLen - 2` with `totalLen = 6 + |R| + |S|` -/
theorem totalLen_sub (a b : Nat) : 6 + a + b - 2 = 4 + a + b := by omega

end Secp.Proofs.BytesBuild
