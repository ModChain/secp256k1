import Secp.Model.Der
import Secp.Model.PubKey
import Secp.Model.Ecdsa
import Secp.Model.Schnorr
/-
  Proofs/BytesPeel — the one method by which the byte-level parsers regenerated by pass T7
  (Gen/BytesProg.lean) are shown equal to their hand-written models (Props C07, C08, C09, C11): both sides are
  peeled in lock step, one Go statement at a time.  A statement is one of

  * a check or a `switch` arm, `if c then a else b`: `ite_congr_both` (the two conditions need only be
    equivalent; each arm is compared under its condition);
  * `let t ← x`: `bind_congr_ok` (the continuations are compared on the value produced, and the fact is
    used to rewrite later evaluations of the same expression) or, below a length guard that makes the
    access safe, `idx_zero_bind` / `slice_ok` / `sliceFrom_ok`;
  * Go's `a && b && c`: `and_congr`;
  * a fall-through block `if c { if d { return err } }`: `unit_bind_*` push the continuation into the
    block, `guarded_check_congr` compares the result with the model's single check.

  A model written with `Except` is embedded with `ofExcept`, which is pushed to the leaves before peeling.
  Each parser has a driver (`peel_step`, `peel_pub`, `peel_sig`) that repeats "whichever step applies", so
  renumbered temporaries, reordered or extra constant bindings, and checks added to or removed from both sides
  need no new proof; the `refine`s of `peel_pub` unify `with_reducible`, so a step that does not fit fails at once
  instead of unfolding `decompressY` / `fieldSetBytes32`.  Nothing here mentions a generated definition.
-/
-- `BytesProg`, `BytesProgPub`, `BytesProgSig`: one namespace per regenerated parser of `Gen.BytesProg`, the names
-- Props/C07, C09 and C11 cite
namespace Secp.Proofs.BytesProg
open Secp.Spec Secp.Model

theorem ite_congr_both {α : Sort _} {c c' : Prop} [Decidable c] [Decidable c'] {a a' b b' : α}
    (hc : c ↔ c') (ha : c' → a = a') (hb : ¬ c' → b = b') :
    (if c then a else b) = (if c' then a' else b') :=
  ite_congr (propext hc) ha hb

theorem ite_congr_iff {α : Sort _} {c c' : Prop} [Decidable c] [Decidable c'] {e e' a b : α}
    (hc : c ↔ c') (he : e = e') (ha : ¬ c' → a = b) :
    (if c then e else a) = (if c' then e' else b) :=
  ite_congr_both hc (fun _ => he) ha

theorem bind_congr_ok {ε α β : Type} {x : Outcome ε α} {f g : α → Outcome ε β}
    (h : ∀ a, x = .ok a → f a = g a) : (x >>= f) = (x >>= g) := by
  cases x with
  | ok a => exact h a rfl
  | err e => rfl
  | panic => rfl

/-- Go's `p && q && Y` where `q` is the value of an expression `X` that cannot fail here:
    the generated text has two nested monadic Booleans, the model a single conjunction -/
theorem and_congr {ε β : Type} {p c : Prop} [Decidable p] [Decidable c]
    {X Y Y' : Outcome ε Bool} {q : Bool} {K K' : Bool → Outcome ε β}
    (hX : X = .ok q) (hc : (p ∧ q = true) ↔ c) (hY : Y = Y') (hK : ∀ b, K b = K' b) :
    ((if p then X else pure false) >>= fun t => (if t = true then Y else pure false) >>= K)
      = ((if c then Y' else pure false) >>= K') := by
  subst hX hY
  have hK' : K = K' := funext hK
  subst hK'
  by_cases hp : p
  · cases q with
    | true =>
      have : c := hc.mp ⟨hp, rfl⟩
      simp only [if_pos hp, if_pos this, Outcome.bind_ok, if_true]
    | false =>
      have : ¬ c := fun h => Bool.noConfusion (hc.mpr h).2
      simp only [if_pos hp, if_neg this, Outcome.bind_ok, Outcome.pure_eq, Bool.false_eq_true,
        if_false]
  · have : ¬ c := fun h => hp (hc.mpr h).1
    simp only [if_neg hp, if_neg this, Outcome.bind_ok, Outcome.pure_eq, Bool.false_eq_true,
      if_false]


/-- side conditions of index / slice operations, from the guards collected while peeling -/
macro "len_side" : tactic =>
  `(tactic| ((try simp only [decide_eq_true_eq, bne_iff_ne, beq_iff_eq, ne_eq, gt_iff_lt, ge_iff_le,
      Decidable.not_not, Nat.not_lt, Nat.not_le] at *); omega))

/-- the two spellings of one condition are equivalent: syntactically; up to `decide`/`==`/`!=`; as Boolean
    combinations; as `UInt8` comparisons against the same comparisons of `toNat` -/
macro "cond_iff" : tactic =>
  `(tactic| first
    | with_reducible exact Iff.rfl
    | (simp only [decide_eq_true_eq, bne_iff_ne, beq_iff_eq, ne_eq, gt_iff_lt, ge_iff_le]; done)
    | (simp only [Bool.not_eq_true', Bool.not_eq_true, Bool.or_eq_true, Bool.or_eq_false_iff,
         beq_iff_eq, beq_eq_false_iff_ne, bne_iff_ne, ne_eq, not_or, decide_eq_true_eq,
         and_assoc, or_assoc]; done)
    | (simp only [Bool.or_eq_true, Bool.and_eq_true, decide_eq_true_eq, gt_iff_lt, ge_iff_le,
        UInt8.lt_iff_toNat_lt, UInt8.le_iff_toNat_le]; exact Iff.rfl)
    | (simp [and_assoc, or_assoc]; done))


theorem derInt_bind {β : Type} (b : Bytes) (tooBig isZero : SigErr) (K : Nat → Outcome SigErr β) :
    (derInt b tooBig isZero >>= K) =
      (if (stripZeros b).length > 32 then .err tooBig else
       if (scalarSetByteSlice (stripZeros b)).2 = true then .err tooBig else
       if (scalarSetByteSlice (stripZeros b)).1 = 0 then .err isZero else
       K (scalarSetByteSlice (stripZeros b)).1) := by
  unfold derInt
  simp only [apply_ite (· >>= K), Outcome.bind_err, Outcome.bind_ok]

macro "peel_step" : tactic =>
  `(tactic| first
    | with_reducible rfl
    -- `if c then err … else …`
    | (refine ite_congr_iff (by cond_iff) rfl ?_; intro _)
    -- `a && b && c`
    | (refine and_congr rfl (by cond_iff) rfl ?_; intro _)
    -- `let t ← x`
    | (refine bind_congr_ok ?_; intro _ hx; try simp only [hx])
    -- `let (r, overflow) := scalarSetByteSlice …`
    | (generalize scalarSetByteSlice _ = p; obtain ⟨_, _⟩ := p; dsimp only))

end Secp.Proofs.BytesProg

namespace Secp.Proofs.BytesProgPub
open Secp.Spec Secp.Model Secp.Proofs.BytesProg

theorem guarded_check_congr {α : Sort _} {c d p : Prop} [Decidable c] [Decidable d] [Decidable p]
    {e e' a a' b : α}
    (h : (c ∧ d) ↔ p) (he : e = e') (ha : ¬ p → a = b) (ha' : ¬ p → a' = b) :
    (if c then (if d then e else a) else a') = (if p then e' else b) := by
  by_cases hp : p
  · rw [if_pos hp, if_pos (h.mpr hp).1, if_pos (h.mpr hp).2]; exact he
  · rw [if_neg hp]
    by_cases hc : c
    · have hd : ¬ d := fun hd => hp (h.mp ⟨hc, hd⟩)
      rw [if_pos hc, if_neg hd]; exact ha hp
    · rw [if_neg hc]; exact ha' hp

theorem unit_bind_ite {ε β : Type} {c : Prop} [Decidable c] (A B : Outcome ε Unit)
    (K : Unit → Outcome ε β) :
    ((if c then A else B) >>= K) = (if c then A >>= K else B >>= K) :=
  apply_ite (· >>= K) c A B

theorem unit_bind_pure {ε β : Type} (K : Unit → Outcome ε β) :
    ((pure () : Outcome ε Unit) >>= K) = K () := rfl

theorem unit_bind_err {ε β : Type} (e : ε) (K : Unit → Outcome ε β) :
    ((.err e : Outcome ε Unit) >>= K) = .err e := rfl


macro "peel_pub" : tactic =>
  `(tactic| first
    | with_reducible rfl
    | (with_reducible refine ite_congr_iff ?_ ?_ (fun _ => ?_)
       · cond_iff
       · with_reducible rfl)
    | (with_reducible refine guarded_check_congr ?_ ?_ (fun _ => ?_) (fun _ => ?_)
       · cond_iff
       · with_reducible rfl)
    | (with_reducible refine ite_congr_both ?_ (fun _ => ?_) (fun _ => ?_)
       · cond_iff)
    | (simp only [unit_bind_ite, unit_bind_pure, unit_bind_err])
    | (with_reducible refine bind_congr_ok (fun _ hx => ?_)
       try simp only [hx])
    | (generalize fieldSetBytes32 _ = p; obtain ⟨_, _⟩ := p; dsimp only)
    | (generalize decompressY _ _ = o; cases o <;> dsimp only)
    | (focus (simp only [Outcome.bind_ok, Outcome.bind_err, Outcome.pure_eq]; done)))

end Secp.Proofs.BytesProgPub

namespace Secp.Proofs.BytesProgSig
open Secp.Spec Secp.Model Secp.Proofs.BytesProg

/-- embedding of the models' result type into the generated programs' result type -/
def ofExcept {ε α} : Except ε α → Secp.Model.Outcome ε α
  | .ok a => .ok a
  | .error e => .err e

@[simp] theorem ofExcept_ok {ε α} (a : α) : ofExcept (.ok a : Except ε α) = .ok a := rfl
@[simp] theorem ofExcept_error {ε α} (e : ε) : ofExcept (.error e : Except ε α) = .err e := rfl

/-- one destructuring `let (a, b) := p` on both sides -/
theorem pair_ofExcept {ε α β γ : Type} (p q : β × γ) (hpq : p = q)
    {f : β → γ → Outcome ε α} {g : β → γ → Except ε α}
    (h : ∀ x y, q = (x, y) → f x y = ofExcept (g x y)) :
    (match p with | (x, y) => f x y) = ofExcept (match q with | (x, y) => g x y) := by
  subst hpq
  obtain ⟨x, y⟩ := p
  exact h x y rfl

theorem idx_zero_bind {ε β : Type} (b : Bytes) (h : 0 < b.length) (K : UInt8 → Outcome ε β) :
    (idx b 0 >>= K) = K (b.headD 0) := by
  rw [idx_bind h, List.headD_eq_head?_getD, List.head?_eq_getElem?]


/-- the header byte of a compact signature: Go `byte` arithmetic against the model's `Nat` arithmetic -/
theorem hdr_sub (x : UInt8) (h : ¬ (x.toNat < 27 ∨ x.toNat > 34)) :
    (x - 27).toNat = x.toNat - 27 :=
  UInt8.toNat_sub_of_le x 27 (UInt8.le_iff_toNat_le.mpr (by
    show 27 ≤ x.toNat
    omega))

/-- `wasCompressed` -/
theorem hdr_flag (x : UInt8) (h : ¬ (x.toNat < 27 ∨ x.toNat > 34)) :
    (((x - 27) &&& 4) != 0) = decide ((x.toNat - 27) &&& 4 ≠ 0) := by
  rw [← hdr_sub x h, Bool.eq_iff_iff]
  simp only [bne_iff_ne, ne_eq, decide_eq_true_eq, ← UInt8.toNat_inj, UInt8.toNat_and]
  exact Iff.rfl

/-- `pubKeyRecoveryCode` -/
theorem hdr_code (x : UInt8) (h : ¬ (x.toNat < 27 ∨ x.toNat > 34)) :
    ((x - 27) &&& 3).toNat = (x.toNat - 27) &&& 3 := by
  rw [← hdr_sub x h, UInt8.toNat_and]; rfl

/-- the error values of one check agree (they may mention `wasCompressed`) -/
macro "err_eq" : tactic =>
  `(tactic| first
    | rfl
    | (simp only [hdr_flag _ ‹_›, hdr_code _ ‹_›]; done))

/-- peel one statement from both sides (the model's `ofExcept` is at its leaves) -/
macro "peel_sig" : tactic =>
  `(tactic| first
    -- `return …`; the values may mention `wasCompressed` and the recovery code
    | rfl
    | (simp only [Outcome.pure_eq, hdr_flag _ ‹_›, hdr_code _ ‹_›]; done)
    -- `if c then err … else …`
    | (refine ite_congr_both (by cond_iff) (fun _ => by err_eq) (fun _ => ?_))
    -- `let t ← b[0]`, `b[lo:hi]`, `b[lo:]`
    | (rw [idx_zero_bind _ (by len_side)])
    | (rw [slice_ok (by len_side) (by len_side), Outcome.bind_ok];
       try simp (disch := len_side) only [List.drop_zero, List.take_of_length_le])
    | (rw [sliceFrom_ok (by len_side), Outcome.bind_ok]))

end Secp.Proofs.BytesProgSig
