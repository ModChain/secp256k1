import Secp.Model.Ecdsa
import Secp.Model.PubKey
import Secp.Proofs.FieldBridge
import Secp.Proofs.FOpLemmas
import Secp.Proofs.RunNamed
/-
  Proofs/Chains — the GENERATED addition chains (Gen.FormulasC: Inverse, SquareRootVal,
  and their inlined copies in DecompressY / ToAffine) compute the right powers.

  The chains are never unfolded: exponent tracking (`FOp.expPath`) is proved sound once
  (`expPath_sound`) and then evaluated on the generated programs by `decide +kernel`.
-/
namespace Secp.Proofs.Chains
open Secp.Spec Secp.Model Secp.FOp
open Secp.Gen.FormulasC

theorem pm_one {a : Nat} (ha : a < P) : powMod a 1 P = a := by
  rw [powMod_eq, pow_one, Nat.mod_eq_of_lt ha]

theorem pm_add (a x y : Nat) : fmul (powMod a x P) (powMod a y P) = powMod a (x + y) P := by
  simp only [powMod_eq, fmul]
  rw [pow_add, ← Nat.mul_mod]

theorem pm_two (a x : Nat) : fsq (powMod a x P) = powMod a (2 * x) P := by
  rw [two_mul, ← pm_add]; rfl

/-- `expPath_sound` below is `Tracks a σ r → Tracks a (expPath items σ) r'` with both sides written out -/
def Tracks (a : Nat) (σ : List (Option Nat)) (r : Regs) : Prop :=
  ∀ i e, (σ[i]?).join = some e → rget r i = powMod a e P

theorem tracks_set {a : Nat} {σ : List (Option Nat)} {r : Regs} (hI : Tracks a σ r)
    (hlen : σ.length ≤ r.length) (d v : Nat) (x : Option Nat)
    (hx : ∀ e, x = some e → v = powMod a e P) : Tracks a (σ.set d x) (rset r d v) := by
  intro i e he
  rw [rget_rset]
  have := hI i e
  grind

theorem tracks_norm {a : Nat} {σ : List (Option Nat)} {r : Regs} (hI : Tracks a σ r) (d : Nat) :
    Tracks a σ (rset r d (rget r d % P)) := by
  intro i e he
  have := hI i e he
  have := Nat.mod_eq_of_lt (powMod_lt a e P_pos)
  rw [rget_rset]
  grind

theorem stepE_sound {a : Nat} {σ : List (Option Nat)} {r : Regs} (hI : Tracks a σ r)
    (hlen : σ.length ≤ r.length) (o : FOp) : Tracks a (stepE σ o) (stepF r o) := by
  cases o with
  | set d s => exact tracks_set hI hlen d _ _ (fun e he => hI s e he)
  | mul2 d x y =>
    refine tracks_set hI hlen d _ _ (fun e he => ?_)
    obtain ⟨ex, hx, ey, hy, rfl⟩ : ∃ ex, (σ[x]?).join = some ex ∧ ∃ ey, (σ[y]?).join = some ey ∧ ex + ey = e := by
      simpa [Option.bind_eq_some_iff] using he
    rw [hI x ex hx, hI y ey hy, pm_add]
  | sq d x =>
    refine tracks_set hI hlen d _ _ (fun e he => ?_)
    obtain ⟨ex, hx, rfl⟩ : ∃ ex, (σ[x]?).join = some ex ∧ 2 * ex = e := by
      simpa [Option.bind_eq_some_iff] using he
    rw [hI x ex hx, pm_two]
  | norm d => exact tracks_norm hI d
  | zero | setInt | neg | add | add2 | addInt | mulInt =>
    exact tracks_set hI hlen _ _ _ (fun e he => by cases he)

theorem length_stepE (σ : List (Option Nat)) (o : FOp) : (stepE σ o).length = σ.length := by
  cases o <;> simp [stepE]

theorem expPath_sound {callF : Nat → List Nat → Option (List Nat)}
    (a : Nat) (items : List PItem) (σ : List (Option Nat)) (r : Regs) (bools : List Bool) (r' : Regs)
    (hcall : ∀ it ∈ items, ∀ i args, it ≠ PItem.call i args)
    (hlen : σ.length ≤ r.length)
    (hσ : ∀ i e, (σ[i]?).join = some e → rget r i = powMod a e P)
    (hrun : execPathWith callF bools items r = some r') :
    ∀ i e, ((expPath items σ)[i]?).join = some e → rget r' i = powMod a e P := by
  induction items generalizing σ r with
  | nil =>
    simp only [execPathWith, Option.some.injEq] at hrun
    subst hrun
    exact hσ
  | cons it rest ih =>
    have hrest : ∀ it ∈ rest, ∀ i args, it ≠ PItem.call i args :=
      fun it hit => hcall it (List.mem_cons_of_mem _ hit)
    cases it with
    | op o =>
      simp only [execPathWith] at hrun
      simp only [expPath]
      exact ih (stepE σ o) (stepF r o) hrest
        (by rw [length_stepE, length_stepF]; exact hlen) (stepE_sound hσ hlen o) hrun
    | assume c v =>
      simp only [execPathWith] at hrun
      simp only [expPath]
      split at hrun
      · exact ih σ r hrest hlen hσ hrun
      · cases hrun
    | call j args =>
      exact absurd rfl (hcall _ List.mem_cons_self j args)

/-- the length side condition cannot be dropped: with `r = [2]`, `σ = [some 1, none]` the write of
    `sq 1 0` is out of range for `r` (no-op) but in range for `σ` -/
theorem expPath_sound_needs_length :
    ¬ ∀ (a : Nat) (items : List PItem) (σ : List (Option Nat)) (r : Regs) (bools : List Bool) (r' : Regs),
      (∀ it ∈ items, ∀ i args, it ≠ PItem.call i args) →
      (∀ i e, (σ[i]?).join = some e → rget r i = powMod a e P) →
      execPathWith (fun _ _ => none) bools items r = some r' →
      ∀ i e, ((expPath items σ)[i]?).join = some e → rget r' i = powMod a e P := by
  intro h
  have h2 := h 2 [.op (.sq 1 0)] [some 1, none] [2] [] [2]
    (by intro it hit i args; simp at hit; subst hit; intro hc; cases hc)
    (by
      intro i e he
      match i with
      | 0 => simp at he; subst he; decide +kernel
      | 1 => simp at he
      | n + 2 => simp at he)
    rfl 1 2 rfl
  revert h2
  decide +kernel

def opsOnly : List PItem → Bool
  | [] => true
  | .op _ :: rest => opsOnly rest
  | _ :: _ => false

def runOps : List PItem → Regs → Regs
  | [], r => r
  | .op o :: rest, r => runOps rest (stepF r o)
  | _ :: rest, r => runOps rest r

theorem exec_opsOnly {callF : Nat → List Nat → Option (List Nat)} {bools : List Bool}
    (items : List PItem) (r : Regs) (h : opsOnly items = true) :
    execPathWith callF bools items r = some (runOps items r) := by
  fun_induction opsOnly items generalizing r <;>
    simp_all only [execPathWith, runOps, Bool.false_eq_true]

theorem length_runOps (items : List PItem) (r : Regs) : (runOps items r).length = r.length := by
  fun_induction runOps items r <;> simp only [*, length_stepF]

theorem opsOnly_callFree (items : List PItem) (h : opsOnly items = true) :
    ∀ it ∈ items, ∀ i args, it ≠ PItem.call i args := by
  induction items with
  | nil => intro it hit; cases hit
  | cons x rest ih =>
    cases x with
    | op o =>
      intro it hit i args
      rcases List.mem_cons.mp hit with h1 | h1
      · subst h1; intro hc; cases hc
      · exact ih (by simpa [opsOnly] using h) it h1 i args
    | assume | call => simp [opsOnly] at h

theorem runOps_sound (a : Nat) (items : List PItem) (σ : List (Option Nat)) (r : Regs)
    (hops : opsOnly items = true) (hlen : σ.length ≤ r.length) (hσ : Tracks a σ r) :
    Tracks a (expPath items σ) (runOps items r) :=
  expPath_sound (callF := fun _ _ => none) (bools := []) a items σ r _
    (opsOnly_callFree items hops) hlen hσ (exec_opsOnly items r hops)

def noWrite (i : Nat) : List PItem → Bool
  | [] => true
  | .op o :: rest => dest o != i && noWrite i rest
  | _ :: rest => noWrite i rest

theorem runOps_frame (i : Nat) (items : List PItem) (r : Regs) (h : noWrite i items = true) :
    rget (runOps items r) i = rget r i := by
  induction items generalizing r with
  | nil => rfl
  | cons it rest ih =>
    cases it with
    | op o =>
      simp only [noWrite, Bool.and_eq_true, bne_iff_ne] at h
      simp only [runOps]
      rw [ih _ h.2, rget_stepF_of_ne _ _ _ h.1]
    | assume | call => simp only [runOps]; exact ih _ (by simpa [noWrite] using h)

theorem tracks_single (a : Nat) (ha : a < P) (k n : Nat) (r : Regs) (hr : rget r k = a) :
    Tracks a ((List.replicate n (none : Option Nat)).set k (some 1)) r := by
  intro i e he
  have := pm_one ha
  grind

/-- at each use `k` is the register that holds the chain's input when the chain starts and `n` the
    entry's `Entry.nreg` (Inverse: 0, 12; SquareRootVal: 1, 15; DecompressY and ToAffine: 2, 16) -/
theorem chain_spec (chain : List PItem) (hops : opsOnly chain = true) (k n : Nat) (r : Regs)
    (hn : n ≤ r.length) :
    ∃ r1, r1.length = r.length ∧
      (∀ (callF : Nat → List Nat → Option (List Nat)) (bools : List Bool) (tail : List PItem),
        execPathWith callF bools (chain ++ tail) r = execPathWith callF bools tail r1) ∧
      (rget r k < P → Tracks (rget r k) (expPath chain ((List.replicate n none).set k (some 1))) r1) ∧
      ∀ i, noWrite i chain = true → rget r1 i = rget r i :=
  ⟨runOps chain r, length_runOps chain r,
    fun _ _ _ => by rw [exec_append, exec_opsOnly _ _ hops, Option.bind_some],
    fun ha => runOps_sound _ chain _ r hops (by simpa using hn) (tracks_single _ ha k n r rfl),
    fun i hi => runOps_frame i chain r hi⟩

/-- the paths of an entry as one common prefix followed by (tail, return value) alternatives:
    running the entry is running the first alternative whose assumptions hold, after the prefix -/
theorem findSome_tails {α : Type} (paths : List FPath) (chain : List PItem)
    (tails : List (List PItem × Option Bool))
    (hsplit : paths.map (fun p => (p.items, p.ret)) = tails.map (fun t => (chain ++ t.1, t.2)))
    (run : List PItem → Option α) :
    paths.findSome? (fun p => (run p.items).map fun x => (x, p.ret)) =
      tails.findSome? (fun t => (run (chain ++ t.1)).map fun x => (x, t.2)) := by
  have h := congrArg (List.findSome? fun q : List PItem × Option Bool => (run q.1).map fun x => (x, q.2)) hsplit
  simpa only [List.findSome?_map, Function.comp_def] using h

theorem inverse_spec (a : Nat) (ha : a < P) :
    ∃ r, runNamed "Inverse" [a] [] = some (r, none) ∧ rget r 0 = finv a := by
  obtain ⟨callF, hrun⟩ := runNamed_eq "Inverse" 6 Inverse [a] [] idx_Inverse rfl
  obtain ⟨r1, -, hrun1, hI, -⟩ := chain_spec Inverse_p0.items (by decide +kernel) 0 12
    ([a] ++ List.replicate 11 0) (by simp)
  refine ⟨r1, ?_, hI ha 0 (P - 2) (by decide +kernel)⟩
  rw [hrun, show Inverse.paths = [Inverse_p0] from rfl, List.findSome?_cons,
    show Inverse.nreg - [a].length = 11 from rfl, ← List.append_nil Inverse_p0.items, hrun1]
  rfl

/-- the common part of both SquareRootVal paths (the chain, then the candidate squared into register 14
    and the normalisations); each path is these 283 items and one test (`hsplit` in `sqrt_spec` checks it) -/
def sqrtChain : List PItem := SquareRootVal_p0.items.take 283

theorem sqrt_spec (f val : Nat) (hv : val < P) :
    ∃ r, runNamed "SquareRootVal" [f, val] [] = some (r, some (fsq (fsqrtCand val) == val))
      ∧ rget r 0 = fsqrtCand val := by
  obtain ⟨callF, hrun⟩ := runNamed_eq "SquareRootVal" 7 SquareRootVal [f, val] [] idx_SquareRootVal rfl
  have hsplit : SquareRootVal.paths.map (fun p => (p.items, p.ret)) =
      [([.assume (.equals 14 1) true], some true), ([.assume (.equals 14 1) false], some false)].map
        fun t => (sqrtChain ++ t.1, t.2) := by decide +kernel
  obtain ⟨r1, -, hrun1, hI, -⟩ := chain_spec sqrtChain (by decide +kernel) 1 15
    ([f, val] ++ List.replicate 13 0) (by simp)
  replace hI : Tracks val _ r1 := hI hv
  -- one evaluation of the tracker for the three registers the tails read
  obtain ⟨e0, e1, e14⟩ : let σ := expPath sqrtChain ((List.replicate 15 none).set 1 (some 1))
      (σ[0]?).join = some ((P + 1) / 4) ∧ (σ[1]?).join = some 1 ∧
        (σ[14]?).join = some (2 * ((P + 1) / 4)) := by decide +kernel
  have h0 : rget r1 0 = fsqrtCand val := hI 0 _ e0
  have h1 : rget r1 1 = val := by rw [hI 1 _ e1, pm_one hv]
  have h14 : rget r1 14 = fsq (fsqrtCand val) := by rw [hI 14 _ e14, ← pm_two]; rfl
  refine ⟨r1, ?_, h0⟩
  rw [hrun, show SquareRootVal.nreg - [f, val].length = 13 from rfl,
    findSome_tails _ _ _ hsplit (execPathWith callF [] · _)]
  simp only [List.findSome?_cons, List.findSome?_nil, hrun1, execPathWith, condF, h14, h1]
  cases fsq (fsqrtCand val) == val <;> rfl

def dPre : List PItem := [.op (.zero 2), .op (.sq 2 0), .op (.mul2 2 2 0), .op (.addInt 2 7)]
/-- the inlined square-root chain (on register 2, result in register 1, its square in register 15):
    the 283 items after the 4 of `dPre`, common to all five paths (`hsplit` in `decompress_spec_all`) -/
def dChain : List PItem := (DecompressY_p0.items.drop 4).take 283

/-- no bound on `x` is needed; `decompress_spec` carries one -/
theorem decompress_spec_all (x : Nat) (odd : Bool) : decompressYJ x odd = decompressY x odd := by
  obtain ⟨callF, hrun⟩ := runNamed_eq "DecompressY" 3 DecompressY [x, 0] [odd] idx_DecompressY rfl
  have hsplit : DecompressY.paths.map (fun p => (p.items, p.ret)) =
      [([.assume (.equals 15 2) true, .op (.norm 1), .assume (.isOdd 1) true, .assume (.boolIn 0) true], some true),
       ([.assume (.equals 15 2) true, .op (.norm 1), .assume (.isOdd 1) true, .assume (.boolIn 0) false,
         .op (.neg 1 1 1)], some true),
       ([.assume (.equals 15 2) true, .op (.norm 1), .assume (.isOdd 1) false, .assume (.boolIn 0) true,
         .op (.neg 1 1 1)], some true),
       ([.assume (.equals 15 2) true, .op (.norm 1), .assume (.isOdd 1) false, .assume (.boolIn 0) false], some true),
       ([.assume (.equals 15 2) false], some false)].map
        fun t => (dPre ++ dChain ++ t.1, t.2) := by decide +kernel
  have hopsP : opsOnly dPre = true := by decide
  -- the prefix computes x³+7
  generalize hr1 : runOps dPre ([x, 0] ++ List.replicate 14 0) = r1
  have hlen1 : r1.length = 16 := by rw [← hr1, length_runOps]; rfl
  have hA : rget r1 2 = fadd (fmul (fsq x) x) 7 := by
    rw [← hr1]
    simp [dPre, runOps, stepF, rget_rset, length_rset]
    rfl
  have hAlt : fadd (fmul (fsq x) x) 7 < P := fadd_lt _ _
  unfold decompressY
  simp only []
  generalize fadd (fmul (fsq x) x) 7 = A at *
  obtain ⟨r2, hlen2, hrun2, hI, -⟩ := chain_spec dChain (by decide +kernel) 2 16 r1 (by simp [hlen1])
  replace hI := hI (hA ▸ hAlt)
  rw [hA] at hI
  replace hlen2 : r2.length = 16 := hlen2.trans hlen1
  obtain ⟨e1, e2, e15⟩ : let σ := expPath dChain ((List.replicate 16 none).set 2 (some 1))
      (σ[1]?).join = some ((P + 1) / 4) ∧ (σ[2]?).join = some 1 ∧
        (σ[15]?).join = some (2 * ((P + 1) / 4)) := by decide +kernel
  have h1 : rget r2 1 = fsqrtCand A := hI 1 _ e1
  have h2 : rget r2 2 = A := by rw [hI 2 _ e2, pm_one hAlt]
  have h15 : rget r2 15 = fsq (fsqrtCand A) := by rw [hI 15 _ e15, ← pm_two]; rfl
  have hc : fsqrtCand A % P = fsqrtCand A := Nat.mod_eq_of_lt (fsqrtCand_lt A)
  unfold decompressYJ
  rw [hrun, show DecompressY.nreg - [x, 0].length = 14 from rfl,
    findSome_tails _ _ _ hsplit (execPathWith callF [odd] · _)]
  simp only [List.findSome?_cons, List.findSome?_nil, List.append_assoc, exec_append dPre,
    exec_opsOnly _ _ hopsP, hr1,
    Option.bind_some, hrun2]
  simp only [execPathWith, condF, stepF, rget_rset, hlen2, h1, h2, h15, hc, ite_self]
  cases fsq (fsqrtCand A) == A <;> cases fsqrtCand A % 2 == 1 <;> cases odd <;>
    simp [rget_rset, length_rset, hlen2, hc, fneg_mod]

theorem decompress_spec (x : Nat) (odd : Bool) (_hx : x < P) : decompressYJ x odd = decompressY x odd :=
  decompress_spec_all x odd

/-- the inlined inversion chain of ToAffine (on a copy of Z in register 3): all but the last 7 of its
    313 items, which `toAffine_items` spells out -/
def tChain : List PItem := ToAffine_p0.items.take 306

theorem toAffine_items : ToAffine_p0.items = tChain ++
    [.op (.sq 4 3), .op (.mul2 0 0 4), .op (.mul2 4 4 3), .op (.mul2 1 1 4), .op (.setInt 2 1),
     .op (.norm 0), .op (.norm 1)] := by
  decide +kernel

/-- ToAffine on arbitrary register contents, in the operation order of the generated program
    (zInv, tempZ = zInv², X·tempZ, Y·(tempZ·zInv), Z = 1, Normalize): `zi` is what the inlined
    inversion chain leaves, and it is Z⁻¹ as soon as `Z < P`.  The results are products, hence
    reduced, whatever the inputs. -/
theorem toAffineJ_eq (X Y Z : Nat) :
    ∃ zi, (Z < P → zi = finv Z) ∧
      toAffineJ (X, Y, Z) = (fmul X (fsq zi), fmul Y (fmul (fsq zi) zi), 1) := by
  obtain ⟨callF, hrun⟩ := runNamed_eq "ToAffine" 8 ToAffine [X, Y, Z] [] PointOps.idx_ToAffine rfl
  obtain ⟨r1, hlen, hrun1, hI, hfr⟩ := chain_spec tChain (by decide +kernel) 2 16
    ([X, Y, Z] ++ List.replicate 13 0) (by simp)
  have h0 : rget r1 0 = X := hfr 0 (by decide +kernel)
  have h1 : rget r1 1 = Y := hfr 1 (by decide +kernel)
  refine ⟨rget r1 3, fun hZ => (hI hZ : Tracks Z _ r1) 3 (P - 2) (by decide +kernel), ?_⟩
  have hone : 1 % P = 1 := Nat.mod_eq_of_lt (by decide +kernel)
  replace hlen : r1.length = 16 := hlen
  unfold toAffineJ
  simp only []
  rw [hrun, show ToAffine.paths = [ToAffine_p0] from rfl]
  simp only [List.findSome?_cons, List.findSome?_nil]
  rw [show ToAffine.nreg - [X, Y, Z].length = 13 from rfl, toAffine_items, hrun1]
  simp [execPathWith, stepF, rget_rset, length_rset, hlen, h0, h1, hone,
    Nat.mod_eq_of_lt (fmul_lt _ _)]

theorem toAffine_run_of_Z (X Y Z : Nat) (hZ : Z < P) :
    toAffineJ (X, Y, Z) = (fmul X (fsq (finv Z)), fmul Y (fmul (fsq (finv Z)) (finv Z)), 1) := by
  obtain ⟨zi, hzi, h⟩ := toAffineJ_eq X Y Z
  rw [h, hzi hZ]

theorem toAffine_run (X Y Z : Nat) (_hX : X < P) (_hY : Y < P) (hZ : Z < P) :
    toAffineJ (X, Y, Z) = (fmul X (fsq (finv Z)), fmul Y (fmul (fsq (finv Z)) (finv Z)), 1) :=
  toAffine_run_of_Z X Y Z hZ

theorem toAffineJ_lt (q : Jac) : (toAffineJ q).1 < P ∧ (toAffineJ q).2.1 < P := by
  obtain ⟨zi, -, h⟩ := toAffineJ_eq q.1 q.2.1 q.2.2
  rw [show q = (q.1, q.2.1, q.2.2) from rfl, h]
  exact ⟨fmul_lt _ _, fmul_lt _ _⟩

end Secp.Proofs.Chains
