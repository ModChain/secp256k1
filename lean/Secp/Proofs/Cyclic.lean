import Secp.Proofs.SpecOrder
import Secp.Spec.Sec1
import Mathlib.GroupTheory.Perm.Cycle.Type
import Mathlib.GroupTheory.Coset.Card
import Mathlib.Data.ZMod.QuotientGroup
import Mathlib.Algebra.Group.Subgroup.Finite
import Mathlib.SetTheory.Cardinal.Finite
/-
  Proofs/Cyclic — the group of y² = x³ + 7 over `ZMod P` has exactly `N` elements, hence is
  generated by `G`: every affine point of the curve is a multiple of `G` (`Secp.Model.Cyclic`).

  Elementary argument (no Hasse bound), in the order of the file:
  1. `#E ≤ 2·P + 1`: a point is its abscissa and one bit (`enc_injective`, `card_le`);
  2. `2·P + 1 < 3·N` (`two_P_succ_lt_three_N`, in FieldBridge);
  3. `N ∣ #E` (Lagrange, `order_G`);
  4. `#E ≠ 2·N`, since there is no point of order 2 (Cauchy; `-7` is not a cube);
  5. so `#E = N` (`card_E`) and `G` generates.
-/

namespace Secp.Proofs.Cyclic
open Secp.Spec Secp.Proofs.SpecGroup WeierstrassCurve.Affine

open Classical in
noncomputable def root (x : ZMod P) : ZMod P :=
  if h : ∃ r : ZMod P, r ^ 2 = x ^ 3 + 7 then Classical.choose h else 0

theorem root_spec {x y : ZMod P} (h : y ^ 2 = x ^ 3 + 7) : root x ^ 2 = x ^ 3 + 7 := by
  have hex : ∃ r : ZMod P, r ^ 2 = x ^ 3 + 7 := ⟨y, h⟩
  unfold root
  rw [dif_pos hex]
  exact Classical.choose_spec hex

theorem eq_neg_root {x y : ZMod P} (h : y ^ 2 = x ^ 3 + 7) (hne : y ≠ root x) :
    y = -root x :=
  (sq_eq_sq_iff_eq_or_eq_neg.1 (h.trans (root_spec h).symm)).resolve_left hne

open Classical in
noncomputable def enc : E.Point → Option (ZMod P × Bool)
  | .zero => none
  | .some x y _ => some (x, decide (y = root x))

theorem enc_injective : Function.Injective enc := by
  intro p q hpq
  rcases p with _ | ⟨x1, y1, h1⟩ <;> rcases q with _ | ⟨x2, y2, h2⟩
  · rfl
  · simp [enc] at hpq
  · simp [enc] at hpq
  · simp only [enc, Option.some.injEq, Prod.mk.injEq, decide_eq_decide] at hpq
    obtain ⟨hx, hy⟩ := hpq
    subst hx
    have hc1 := (nonsingular_iff_E _ _).1 h1
    have hc2 := (nonsingular_iff_E _ _).1 h2
    have hyy : y1 = y2 := by
      by_cases hr : y1 = root x1
      · rw [hr, ← hy.1 hr]
      · have hr2 : y2 ≠ root x1 := fun h => hr (hy.2 h)
        rw [eq_neg_root hc1 hr, eq_neg_root hc2 hr2]
    subst hyy
    rfl

instance finite_point : Finite E.Point := Finite.of_injective enc enc_injective

theorem card_le : Nat.card E.Point ≤ 2 * P + 1 := by
  have hc : Nat.card (Option (ZMod P × Bool)) = 2 * P + 1 := by
    rw [Nat.card_eq_fintype_card, Fintype.card_option, Fintype.card_prod, ZMod.card,
      Fintype.card_bool, Nat.mul_comm]
  rw [← hc]
  exact Nat.card_le_card_of_injective enc enc_injective

theorem card_zmultiples_G : Nat.card (AddSubgroup.zmultiples (toE G)) = N := by
  rw [Nat.card_zmultiples, order_G]

theorem N_dvd_card : N ∣ Nat.card E.Point := by
  rw [← card_zmultiples_G]
  exact AddSubgroup.card_addSubgroup_dvd_card _

theorem no_order_two (Q : E.Point) : addOrderOf Q ≠ 2 := by
  intro h2
  have hne : Q ≠ 0 := by
    rintro rfl
    rw [addOrderOf_zero] at h2
    exact absurd h2 (by norm_num)
  have hQQ : Q + Q = 0 := by
    rw [← two_nsmul, ← h2]
    exact addOrderOf_nsmul_eq_zero Q
  exact hne (SpecGroup.add_self_eq_zero hQQ)

theorem two_not_dvd_card : ¬ 2 ∣ Nat.card E.Point := by
  intro h
  have : Fact (Nat.Prime 2) := ⟨Nat.prime_two⟩
  obtain ⟨Q, hQ⟩ := exists_prime_addOrderOf_dvd_card' 2 h
  exact no_order_two Q hQ

theorem card_E : Nat.card E.Point = N := by
  obtain ⟨c, hc⟩ := N_dvd_card
  have hpos : 0 < Nat.card E.Point := Nat.card_pos
  have hle := card_le
  have hlt : N * c < N * 3 := by
    have := two_P_succ_lt_three_N
    omega
  have hc3 : c < 3 := Nat.lt_of_mul_lt_mul_left hlt
  have hc0 : c ≠ 0 := by
    rintro rfl
    rw [Nat.mul_zero] at hc
    omega
  have hc2 : c ≠ 2 := by
    rintro rfl
    exact two_not_dvd_card ⟨N, by rw [hc, Nat.mul_comm]⟩
  have hc1 : c = 1 := by omega
  rw [hc, hc1, Nat.mul_one]

theorem zmultiples_G_eq_top : AddSubgroup.zmultiples (toE G) = ⊤ := by
  apply AddSubgroup.eq_top_of_card_eq
  rw [card_zmultiples_G, card_E]

theorem exists_nsmul_G (Q : E.Point) : ∃ m : Nat, m • toE G = Q := by
  have hQ : Q ∈ AddSubgroup.zmultiples (toE G) := by
    rw [zmultiples_G_eq_top]
    exact AddSubgroup.mem_top Q
  obtain ⟨k, hk⟩ := AddSubgroup.mem_zmultiples_iff.1 hQ
  have hN : (0 : ℤ) < (N : ℤ) := by exact_mod_cast N_pos
  have hnn : 0 ≤ k % (N : ℤ) := Int.emod_nonneg k hN.ne'
  refine ⟨(k % (N : ℤ)).toNat, ?_⟩
  rw [← natCast_zsmul, Int.toNat_of_nonneg hnn, ← hk]
  have := mod_addOrderOf_zsmul (toE G) k
  rwa [order_G] at this

/-- every affine point of the curve is a multiple of `G` (this is `Secp.Model.Cyclic`) -/
theorem cyclic : ∀ x y, OnCurve x y → ∃ m, smul m G = some (x, y) := by
  intro x y hxy
  have hv : Valid (some (x, y)) := hxy
  obtain ⟨m, hm⟩ := exists_nsmul_G (toE (some (x, y)))
  refine ⟨m, toE_injective_on_valid (valid_smul m valid_G) hv ?_⟩
  rw [toE_smul m valid_G, hm]

end Secp.Proofs.Cyclic
