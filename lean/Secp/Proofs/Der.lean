import Secp.Model.DerRules
import Secp.Spec.Der
import Secp.Proofs.Buffers
import Secp.Proofs.BytesPeel
/-
  Proofs/Der — the DER signature codec (Props/C09), model `parseDER` / `serializeDER` against `Spec.canonicalDER`.
  In this order: the 0x80 mask; `derIntContents` and the serialiser's `canonLoop`; the flat form `parseFlat` of the
  parser (`parseDER_eq_flat`: every read replaced by the byte it returns, the checks one `if` ladder `flatCore`);
  `derInt`; `GoodInt`, the shape of a minimal INTEGER, and `GoodAt`, the same read in place, in which
  `flatCore_ok_iff` states what the ladder accepts; the layout `mk` of a signature with `decomp` (a string whose two
  length bytes add up to its length is one) and `parseFlat_mk` (what the ladder says of one); `flatCore_err` (each
  rejection is a violated rule).  `C09.parseDER_ok_iff` goes flat form → `decomp` → `parseFlat_mk` → `goodInt_eq`.
-/
namespace Secp.Proofs.Der
open Secp.Spec Secp.Model Secp.Proofs.Bytes Secp.Proofs.Buffers

theorem stripZeros_idem (b : Bytes) : stripZeros (stripZeros b) = stripZeros b := by
  rcases stripZeros_head b with h | ⟨x, xs, h, hx⟩
  · rw [h]; rfl
  · rw [h, stripZeros_of_head_ne x xs hx]

theorem and80_eq_zero (x : UInt8) : x &&& 0x80 = 0 ↔ x.toNat < 128 := by
  rw [← UInt8.toNat_inj, UInt8.toNat_and]
  exact (by decide +kernel : ∀ n : Fin 256, n.val &&& 128 = 0 ↔ n.val < 128) ⟨x.toNat, x.toNat_lt⟩

theorem and80_ne_zero (x : UInt8) : x &&& 0x80 ≠ 0 ↔ x.toNat ≥ 128 := by
  rw [Ne, and80_eq_zero]; omega

theorem toNat_ne_zero {x : UInt8} (h : x ≠ 0) : x.toNat ≠ 0 := by
  intro h'; apply h; exact UInt8.toNat_inj.1 (by simpa using h')

theorem derIntContents_beNat_nil : derIntContents (beNat []) = [0] := by
  rw [derIntContents, natBytes_beNat]; rfl

theorem derIntContents_beNat_of_head_ne (x : UInt8) (xs : Bytes) (hx : x ≠ 0) :
    derIntContents (beNat (x :: xs)) = if x.toNat ≥ 128 then 0 :: x :: xs else x :: xs := by
  rw [derIntContents, natBytes_beNat, stripZeros_of_head_ne _ _ hx]

theorem canonLoop_zero_cons (l : Bytes) : canonLoop ((0 : UInt8) :: l) = derIntContents (beNat l) := by
  induction l with
  | nil => rw [derIntContents_beNat_nil]; rfl
  | cons b rest ih =>
    rw [canonLoop]
    by_cases hb : b &&& 0x80 = 0
    · rw [if_pos ⟨rfl, hb⟩]
      by_cases hb0 : b = 0
      · subst hb0; rw [ih, beNat_zero_cons]
      · have hlt := (and80_eq_zero b).1 hb
        rw [derIntContents_beNat_of_head_ne _ _ hb0, if_neg (by omega)]
        cases rest with
        | nil => rfl
        | cons c cs => rw [canonLoop, if_neg (fun h => hb0 h.1)]
    · rw [if_neg (fun h => hb h.2)]
      have hge := (and80_ne_zero b).1 hb
      have hb0 : b ≠ 0 := by intro h; subst h; exact hb (by decide)
      rw [derIntContents_beNat_of_head_ne _ _ hb0, if_pos hge]

theorem canonInt_eq (v : Nat) (hv : v < 2 ^ 256) : canonInt v = derIntContents v := by
  rw [canonInt, canonLoop_zero_cons, beNat_be32, Nat.mod_eq_of_lt hv]

/-- byte `i` of `b`, or 0: the value `idx_ok` gives a read -/
abbrev gb (b : Bytes) (i : Nat) : UInt8 := (b[i]?).getD 0

/-- the checks of `parseDER` in its order; the two length bytes are parameters so that `parseFlat_mk` can put the
    lengths of the layout for them -/
def flatCore (b : Bytes) (rLen sLen : Nat) : Outcome SigErr (Nat × Nat) :=
  if b.length < 8 then .err .ErrSigTooShort else
  if b.length > 72 then .err .ErrSigTooLong else
  if gb b 0 ≠ 0x30 then .err .ErrSigInvalidSeqID else
  if (gb b 1).toNat ≠ b.length - 2 then .err .ErrSigInvalidDataLen else
  if 4 + rLen ≥ b.length then .err .ErrSigMissingSTypeID else
  if 4 + rLen + 1 ≥ b.length then .err .ErrSigMissingSLen else
  if 4 + rLen + 1 + 1 + sLen ≠ b.length then .err .ErrSigInvalidSLen else
  if gb b 2 ≠ 0x02 then .err .ErrSigInvalidRIntID else
  if rLen = 0 then .err .ErrSigZeroRLen else
  if gb b 4 &&& 0x80 ≠ 0 then .err .ErrSigNegativeR else
  if rLen > 1 ∧ gb b 4 = 0 ∧ gb b 5 &&& 0x80 = 0 then .err .ErrSigTooMuchRPadding else
  if gb b (4 + rLen) ≠ 0x02 then .err .ErrSigInvalidSIntID else
  if sLen = 0 then .err .ErrSigZeroSLen else
  if gb b (4 + rLen + 1 + 1) &&& 0x80 ≠ 0 then .err .ErrSigNegativeS else
  if sLen > 1 ∧ gb b (4 + rLen + 1 + 1) = 0 ∧ gb b (4 + rLen + 1 + 1 + 1) &&& 0x80 = 0 then
    .err .ErrSigTooMuchSPadding else
  derInt ((b.take (4 + rLen)).drop 4) .ErrSigRTooBig .ErrSigRIsZero >>= fun r =>
  derInt ((b.take (4 + rLen + 1 + 1 + sLen)).drop (4 + rLen + 1 + 1)) .ErrSigSTooBig .ErrSigSIsZero >>= fun s =>
  .ok (r, s)

def parseFlat (b : Bytes) : Outcome SigErr (Nat × Nat) :=
  flatCore b (gb b 3).toNat (gb b (4 + (gb b 3).toNat + 1)).toNat

/-- the left side is the `rPad` / `sPad` block of `Model.parseDER` (the test for a superfluous leading zero byte) and
    the `if` that follows it; `p ∧ q` is the block's guard -/
theorem pad_step (p q : Prop) [Decidable p] [Decidable q] (b : Bytes) (i : Nat)
    (hi : p ∧ q → i < b.length) (e : SigErr) (K : Outcome SigErr (Nat × Nat)) :
    ((if p ∧ q then (idx b i >>= fun r1 => pure (r1 &&& 128 == 0)) else pure false : Outcome SigErr Bool)
        >>= fun pad => if pad = true then .err e else K)
      = if p ∧ q ∧ gb b i &&& 128 = 0 then .err e else K := by
  by_cases h : p ∧ q
  · rw [if_pos h, idx_bind (hi h), Outcome.pure_eq, Outcome.bind_ok]
    by_cases h' : gb b i &&& 128 = 0
    · rw [if_pos (by simpa using h'), if_pos ⟨h.1, h.2, h'⟩]
    · rw [if_neg (by simpa using h'), if_neg (fun hh => h' hh.2.2)]
  · rw [if_neg h, Outcome.pure_eq, Outcome.bind_ok, if_neg (by simp)]
    rw [if_neg (fun hh => h ⟨hh.1, hh.2.1⟩)]

theorem parseDER_eq_flat (b : Bytes) : parseDER b = parseFlat b := by
  unfold parseDER parseFlat flatCore gb
  dsimp only
  refine BytesProg.ite_congr_iff Iff.rfl rfl fun h1 => ?_
  refine BytesProg.ite_congr_iff Iff.rfl rfl fun h2 => ?_
  rw [idx_bind (i := 0) (by omega)]
  refine BytesProg.ite_congr_iff Iff.rfl rfl fun h3 => ?_
  rw [idx_bind (i := 1) (by omega)]
  refine BytesProg.ite_congr_iff Iff.rfl rfl fun h4 => ?_
  rw [idx_bind (i := 3) (by omega)]
  refine BytesProg.ite_congr_iff Iff.rfl rfl fun h5 => ?_
  refine BytesProg.ite_congr_iff Iff.rfl rfl fun h6 => ?_
  rw [idx_bind (i := _) (by omega)]
  refine BytesProg.ite_congr_iff Iff.rfl rfl fun h7 => ?_
  rw [idx_bind (i := 2) (by omega)]
  refine BytesProg.ite_congr_iff Iff.rfl rfl fun h8 => ?_
  refine BytesProg.ite_congr_iff Iff.rfl rfl fun h9 => ?_
  rw [idx_bind (i := 4) (by omega)]
  refine BytesProg.ite_congr_iff Iff.rfl rfl fun h10 => ?_
  rw [pad_step _ _ b 5 (by omega)]
  refine BytesProg.ite_congr_iff Iff.rfl rfl fun h11 => ?_
  rw [idx_bind (i := _) (by omega)]
  refine BytesProg.ite_congr_iff Iff.rfl rfl fun h12 => ?_
  refine BytesProg.ite_congr_iff Iff.rfl rfl fun h13 => ?_
  rw [idx_bind (i := _) (by omega)]
  refine BytesProg.ite_congr_iff Iff.rfl rfl fun h14 => ?_
  rw [pad_step _ _ b _ (by omega)]
  refine BytesProg.ite_congr_iff Iff.rfl rfl fun h15 => ?_
  rw [slice_ok (by omega) (by omega), Outcome.bind_ok]
  rw [slice_ok (by omega) (by omega)]
  rfl

theorem derInt_eq (bs : Bytes) (tb iz : SigErr) :
    derInt bs tb iz =
      if (stripZeros bs).length > 32 then .err tb else
      if beNat bs ≥ N then .err tb else
      if beNat bs = 0 then .err iz else .ok (beNat bs) := by
  unfold derInt
  dsimp only
  refine BytesProg.ite_congr_iff Iff.rfl rfl fun h => ?_
  rw [scalarSetByteSlice_of_le _ (Nat.le_of_not_gt h), beNat_stripZeros]
  by_cases h2 : beNat bs ≥ N <;> simp [h2]

theorem stripZeros_long (bs : Bytes) (h : (stripZeros bs).length > 32) : beNat bs ≥ N :=
  Nat.le_of_not_lt fun hlt => Nat.not_le.2 h (stripZeros_length_of_lt bs 32 (Nat.lt_trans hlt N_lt_pow))

theorem derInt_ne_panic (bs : Bytes) (tb iz : SigErr) : derInt bs tb iz ≠ .panic := by
  rw [derInt_eq]
  simp only [ne_eq, Outcome.ite_err_eq_panic, reduceCtorEq, and_false, not_false_eq_true]

theorem derInt_ok_iff (bs : Bytes) (tb iz : SigErr) (v : Nat) :
    derInt bs tb iz = .ok v ↔ (v = beNat bs ∧ 0 < v ∧ v < N) := by
  rw [derInt_eq]
  simp only [Outcome.ite_err_eq_ok, Outcome.ok.injEq]
  constructor
  · rintro ⟨-, h2, h3, rfl⟩; omega
  · rintro ⟨rfl, h0, hN⟩
    exact ⟨fun h => absurd (stripZeros_long bs h) (by omega), by omega, by omega, rfl⟩

theorem derInt_err (bs : Bytes) (tb iz e : SigErr) (h : derInt bs tb iz = .err e) :
    (e = tb ∧ beNat bs ≥ N) ∨ (e = iz ∧ beNat bs = 0) := by
  rw [derInt_eq] at h
  rcases Outcome.ite_err_eq_err.1 h with ⟨c, rfl⟩ | ⟨-, h⟩
  · exact .inl ⟨rfl, stripZeros_long bs c⟩
  rcases Outcome.ite_err_eq_err.1 h with ⟨c, rfl⟩ | ⟨-, h⟩
  · exact .inl ⟨rfl, c⟩
  rcases Outcome.ite_err_eq_err.1 h with ⟨c, rfl⟩ | ⟨-, h⟩
  · exact .inr ⟨rfl, c⟩
  · cases h

def GoodInt (R : Bytes) : Prop :=
  R.length ≠ 0 ∧ (gb R 0).toNat < 128 ∧ ¬(R.length > 1 ∧ gb R 0 = 0 ∧ (gb R 1).toNat < 128)

theorem gb_cons_zero (x : UInt8) (xs : Bytes) : gb (x :: xs) 0 = x := rfl
theorem gb_cons_succ (x : UInt8) (xs : Bytes) (i : Nat) : gb (x :: xs) (i + 1) = gb xs i := by
  unfold gb; rw [List.getElem?_cons_succ]

theorem goodInt_eq (R : Bytes) (h : GoodInt R) : R = derIntContents (beNat R) := by
  obtain ⟨h1, h2, h3⟩ := h
  cases R with
  | nil => simp at h1
  | cons x xs =>
    rw [gb_cons_zero] at h2 h3
    by_cases hx : x = 0
    · subst hx
      cases xs with
      | nil => rw [beNat_zero_cons, derIntContents_beNat_nil]
      | cons y ys =>
        rw [gb_cons_succ, gb_cons_zero] at h3
        have hy : y.toNat ≥ 128 := by
          simp only [List.length_cons] at h3
          apply Classical.byContradiction; intro hh
          exact h3 ⟨by omega, trivial, by omega⟩
        have hy0 : y ≠ 0 := by intro h; subst h; simp at hy
        rw [beNat_zero_cons, derIntContents_beNat_of_head_ne _ _ hy0, if_pos hy]
    · rw [derIntContents_beNat_of_head_ne _ _ hx, if_neg (by omega)]

theorem derIntContents_cases (v : Nat) :
    (v = 0 ∧ derIntContents v = [0]) ∨
    (∃ x xs, natBytes v = x :: xs ∧ x ≠ 0 ∧
      derIntContents v = if x.toNat ≥ 128 then 0 :: x :: xs else x :: xs) := by
  by_cases hv : v = 0
  · left; subst hv; exact ⟨rfl, by rw [derIntContents, natBytes_zero]⟩
  · right
    have hs := stripZeros_natBytes v
    rcases stripZeros_head (natBytes v) with h | ⟨x, xs, h, hx⟩
    · rw [stripZeros_eq_nil_iff, beNat_natBytes] at h; exact absurd h hv
    · rw [hs] at h
      exact ⟨x, xs, h, hx, by rw [derIntContents, h]⟩

theorem goodInt_derIntContents (v : Nat) : GoodInt (derIntContents v) := by
  rcases derIntContents_cases v with ⟨_, h⟩ | ⟨x, xs, _, hx, h⟩
  · rw [h]; refine ⟨by simp, by decide, ?_⟩; simp
  · rw [h]
    split
    · rename_i hge
      refine ⟨by simp, by rw [gb_cons_zero]; decide, ?_⟩
      rw [gb_cons_succ, gb_cons_zero, gb_cons_zero]; intro hh; omega
    · rename_i hge
      refine ⟨by simp, by rw [gb_cons_zero]; omega, ?_⟩
      rw [gb_cons_zero]; exact fun hh => hx hh.2.1

theorem beNat_derIntContents (v : Nat) : beNat (derIntContents v) = v := by
  rcases derIntContents_cases v with ⟨hv, h⟩ | ⟨x, xs, hn, hx, h⟩
  · rw [h, hv]; rfl
  · rw [h]
    split
    · rw [beNat_zero_cons, ← hn, beNat_natBytes]
    · rw [← hn, beNat_natBytes]

theorem der_length_pos (v : Nat) : 1 ≤ (derIntContents v).length := by
  have := (goodInt_derIntContents v).1; omega

theorem der_length_le (v : Nat) (hv : v < 2 ^ 256) : (derIntContents v).length ≤ 33 := by
  rcases derIntContents_cases v with ⟨_, h⟩ | ⟨x, xs, hn, hx, h⟩
  · rw [h]; simp
  · have h1 := stripZeros_length_of_lt (natBytes v) 32 (by rw [beNat_natBytes]; exact hv)
    rw [stripZeros_natBytes, hn, List.length_cons] at h1
    rw [h]; split <;> simp <;> omega

theorem bind_ok_iff {α β} (x : Outcome SigErr α) (f : α → Outcome SigErr β) (v : β) :
    (x >>= f) = .ok v ↔ ∃ a, x = .ok a ∧ f a = .ok v :=
  Outcome.bind_eq_ok

theorem tail_ok_iff (x y : Outcome SigErr Nat) (r s : Nat) :
    (x >>= fun a => y >>= fun c => (.ok (a, c) : Outcome SigErr (Nat × Nat))) = .ok (r, s) ↔
      (x = .ok r ∧ y = .ok s) := by
  cases x <;> cases y <;> simp

/-- `GoodInt` read in place: the `len` bytes of `b` from `off` -/
def GoodAt (b : Bytes) (off len : Nat) : Prop :=
  len ≠ 0 ∧ (gb b off).toNat < 128 ∧ ¬(len > 1 ∧ gb b off = 0 ∧ (gb b (off + 1)).toNat < 128)

theorem gb_take_drop (b : Bytes) (off len i : Nat) (hi : i < len) :
    gb ((b.take (off + len)).drop off) i = gb b (off + i) := by
  unfold gb
  rw [List.getElem?_drop, List.getElem?_take, if_pos (by omega)]

theorem goodAt_iff (b : Bytes) (off len : Nat) (h : off + len ≤ b.length) :
    GoodAt b off len ↔ GoodInt ((b.take (off + len)).drop off) := by
  have hl : ((b.take (off + len)).drop off).length = len := by rw [List.length_drop, List.length_take]; omega
  unfold GoodAt GoodInt
  rw [hl]
  refine and_congr_right fun h0 => ?_
  rw [show gb _ 0 = gb b off from gb_take_drop b off len 0 (by omega)]
  refine and_congr_right fun _ => not_congr (and_congr_right fun h1 => ?_)
  rw [gb_take_drop b off len 1 h1]

/-- the conjuncts are in the order of the checks -/
theorem flatCore_ok_iff (b : Bytes) (rLen sLen r s : Nat) :
    flatCore b rLen sLen = .ok (r, s) ↔
      (8 ≤ b.length ∧ b.length ≤ 72 ∧ gb b 0 = 0x30 ∧ (gb b 1).toNat = b.length - 2 ∧
       4 + rLen < b.length ∧ 4 + rLen + 1 < b.length ∧ 4 + rLen + 1 + 1 + sLen = b.length ∧
       gb b 2 = 0x02 ∧ GoodAt b 4 rLen ∧ gb b (4 + rLen) = 0x02 ∧ GoodAt b (4 + rLen + 1 + 1) sLen ∧
       derInt ((b.take (4 + rLen)).drop 4) .ErrSigRTooBig .ErrSigRIsZero = .ok r ∧
       derInt ((b.take (4 + rLen + 1 + 1 + sLen)).drop (4 + rLen + 1 + 1)) .ErrSigSTooBig .ErrSigSIsZero = .ok s) := by
  unfold flatCore
  simp only [Outcome.ite_err_eq_ok, tail_ok_iff, Nat.not_lt, Nat.not_le, gt_iff_lt, ge_iff_le, ne_eq,
    Decidable.not_not, and80_eq_zero, GoodAt, and_assoc]

/-- the layout of a DER signature; `h3` and `t1` are the length bytes of `R` and `S` -/
def mk (h0 h1 h2 h3 : UInt8) (R : Bytes) (t0 t1 : UInt8) (S : Bytes) : Bytes :=
  h0 :: h1 :: h2 :: h3 :: (R ++ t0 :: t1 :: S)

section
variable (h0 h1 h2 h3 : UInt8) (R : Bytes) (t0 t1 : UInt8) (S : Bytes)

theorem mk_length : (mk h0 h1 h2 h3 R t0 t1 S).length = 4 + R.length + 1 + 1 + S.length := by
  simp [mk]; omega

/-- the bytes after `R`: at 0 and 1 the header `t0`, `t1` of the second integer, at `i + 2` byte `i` of `S`
    (the four bytes before `R` are read off by `rfl`) -/
theorem gb_mk_tail (i : Nat) :
    gb (mk h0 h1 h2 h3 R t0 t1 S) (4 + R.length + i) = gb (t0 :: t1 :: S) i := by
  show ((h0 :: h1 :: h2 :: h3 :: (R ++ t0 :: t1 :: S))[4 + R.length + i]?).getD 0 = _
  rw [show 4 + R.length + i = R.length + i + 1 + 1 + 1 + 1 by omega]
  simp only [List.getElem?_cons_succ, List.getElem?_append_right (Nat.le_add_right _ _), Nat.add_sub_cancel_left]

theorem gb_mk_t0 : gb (mk h0 h1 h2 h3 R t0 t1 S) (4 + R.length) = t0 := gb_mk_tail h0 h1 h2 h3 R t0 t1 S 0
theorem gb_mk_t1 : gb (mk h0 h1 h2 h3 R t0 t1 S) (4 + R.length + 1) = t1 := gb_mk_tail h0 h1 h2 h3 R t0 t1 S 1

theorem mk_R : ((mk h0 h1 h2 h3 R t0 t1 S).take (4 + R.length)).drop 4 = R := by
  rw [mk, show 4 + R.length = R.length + 1 + 1 + 1 + 1 by omega]
  simp

theorem mk_S : ((mk h0 h1 h2 h3 R t0 t1 S).take (4 + R.length + 1 + 1 + S.length)).drop (4 + R.length + 1 + 1) = S := by
  rw [List.take_of_length_le (by rw [mk_length]; omega)]
  rw [mk, show 4 + R.length + 1 + 1 = (R.length + 2) + 1 + 1 + 1 + 1 by omega]
  simp only [List.drop_succ_cons]
  rw [show R ++ t0 :: t1 :: S = (R ++ [t0, t1]) ++ S by simp]
  exact List.drop_left' (by simp)
end

theorem decomp (b : Bytes)
    (h : 4 + (gb b 3).toNat + 1 + 1 + (gb b (4 + (gb b 3).toNat + 1)).toNat = b.length) :
    ∃ h0 h1 h2 h3 R t0 t1 S, b = mk h0 h1 h2 h3 R t0 t1 S ∧ h3.toNat = R.length ∧ t1.toNat = S.length := by
  generalize hs : (gb b (4 + (gb b 3).toNat + 1)).toNat = sLen at h
  rcases b with _ | ⟨h0, _ | ⟨h1, _ | ⟨h2, _ | ⟨h3, rest⟩⟩⟩⟩ <;> simp only [List.length_cons, List.length_nil] at h <;> try omega
  change 4 + h3.toNat + 1 + 1 + sLen = _ at h
  have h1' : (rest.drop h3.toNat).length = sLen + 2 := by rw [List.length_drop]; omega
  rcases hd : rest.drop h3.toNat with _ | ⟨t0, _ | ⟨t1, S⟩⟩ <;> rw [hd] at h1' <;> simp only [List.length_cons, List.length_nil] at h1' <;> try omega
  have hR : h3.toNat = (rest.take h3.toNat).length := by rw [List.length_take]; omega
  have hb : h0 :: h1 :: h2 :: h3 :: rest = mk h0 h1 h2 h3 (rest.take h3.toNat) t0 t1 S := by
    rw [mk, ← hd, List.take_append_drop]
  refine ⟨h0, h1, h2, h3, rest.take h3.toNat, t0, t1, S, hb, hR, ?_⟩
  change (gb _ (4 + h3.toNat + 1)).toNat = sLen at hs
  rw [hb, show 4 + h3.toNat + 1 = 4 + (rest.take h3.toNat).length + 1 by rw [← hR], gb_mk_t1] at hs
  exact hs.trans (by omega)

theorem parseFlat_mk (h0 h1 h2 h3 : UInt8) (R : Bytes) (t0 t1 : UInt8) (S : Bytes) (r s : Nat)
    (hR : h3.toNat = R.length) (hS : t1.toNat = S.length) :
    parseFlat (mk h0 h1 h2 h3 R t0 t1 S) = .ok (r, s) ↔
      (h0 = 0x30 ∧ h1.toNat = 4 + R.length + S.length ∧ h2 = 0x02 ∧ t0 = 0x02 ∧
       4 + R.length + S.length ≤ 70 ∧ GoodInt R ∧ GoodInt S ∧
       derInt R .ErrSigRTooBig .ErrSigRIsZero = .ok r ∧
       derInt S .ErrSigSTooBig .ErrSigSIsZero = .ok s) := by
  have eL := mk_length h0 h1 h2 h3 R t0 t1 S
  unfold parseFlat
  rw [show gb (mk h0 h1 h2 h3 R t0 t1 S) 3 = h3 from rfl, hR, gb_mk_t1, hS, flatCore_ok_iff,
    goodAt_iff _ 4 _ (by omega), goodAt_iff _ (4 + R.length + 1 + 1) _ (by omega), mk_R, mk_S, eL,
    show gb (mk h0 h1 h2 h3 R t0 t1 S) 0 = h0 from rfl, show gb (mk h0 h1 h2 h3 R t0 t1 S) 1 = h1 from rfl,
    show gb (mk h0 h1 h2 h3 R t0 t1 S) 2 = h2 from rfl, gb_mk_t0]
  constructor
  · rintro ⟨-, c2, c3, c4, -, -, -, c8, gR, c10, gS, dR, dS⟩
    exact ⟨c3, by omega, c8, c10, by omega, gR, gS, dR, dS⟩
  · rintro ⟨c1, c2, c3, c4, c5, gR, gS, dR, dS⟩
    have := gR.1
    have := gS.1
    exact ⟨by omega, by omega, c1, by omega, by omega, by omega, by omega, c3, gR, c4, gS, dR, dS⟩

theorem canonicalDER_eq_mk (r s : Nat) :
    canonicalDER r s =
      mk 0x30 (UInt8.ofNat (4 + (derIntContents r).length + (derIntContents s).length)) 0x02
        (UInt8.ofNat (derIntContents r).length) (derIntContents r) 0x02
        (UInt8.ofNat (derIntContents s).length) (derIntContents s) := by
  simp [canonicalDER, mk]

theorem byteAt_gb (b : Bytes) (i : Nat) (h : i < b.length) : byteAt b i = some (gb b i).toNat := by
  unfold byteAt gb
  rw [List.getElem?_eq_getElem h]; rfl

theorem byteAt_ne (b : Bytes) (i : Nat) (x : UInt8) (hi : i < b.length) (h : gb b i ≠ x) :
    byteAt b i ≠ some x.toNat := by
  rw [byteAt_gb b i hi]
  intro hh
  injection hh with hh
  exact h (UInt8.toNat_inj.1 hh)

/-- walks the ladder from the top: at each `if`, either it fired (`c`, and the error's rule is shown violated) or the
    walk goes on with its negation (`c1 … c15`).  `DerViolates` counts positions as `5 + rLen`, the ladder as
    `4 + rLen + 1`: the `simp only` at the head gives the ladder the former spelling. -/
theorem flatCore_err (b : Bytes) (rLen sLen : Nat) (e : SigErr)
    (hr : 8 ≤ b.length → byteAt b 3 = some rLen)
    (hs : 4 + rLen + 1 < b.length → byteAt b (4 + rLen + 1) = some sLen)
    (h : flatCore b rLen sLen = .err e) : DerViolates b e := by
  unfold flatCore at h
  simp only [show 4 + rLen + 1 = 5 + rLen by omega, show 5 + rLen + 1 = 6 + rLen by omega,
    show 6 + rLen + 1 = 7 + rLen by omega] at h hs
  rcases Outcome.ite_err_eq_err.1 h with ⟨c, rfl⟩ | ⟨c1, h⟩
  · exact c
  rcases Outcome.ite_err_eq_err.1 h with ⟨c, rfl⟩ | ⟨c2, h⟩
  · exact c
  have hr' := hr (by omega)
  rcases Outcome.ite_err_eq_err.1 h with ⟨c, rfl⟩ | ⟨c3, h⟩
  · exact byteAt_ne b 0 0x30 (by omega) c
  rcases Outcome.ite_err_eq_err.1 h with ⟨c, rfl⟩ | ⟨c4, h⟩
  · simp only [DerViolates]
    rw [byteAt_gb b 1 (by omega)]
    intro hh; injection hh with hh; exact c hh
  rcases Outcome.ite_err_eq_err.1 h with ⟨c, rfl⟩ | ⟨c5, h⟩
  · exact ⟨rLen, hr', c⟩
  rcases Outcome.ite_err_eq_err.1 h with ⟨c, rfl⟩ | ⟨c6, h⟩
  · exact ⟨rLen, hr', by omega⟩
  have hs' := hs (by omega)
  rcases Outcome.ite_err_eq_err.1 h with ⟨c, rfl⟩ | ⟨c7, h⟩
  · exact ⟨rLen, sLen, hr', hs', by omega⟩
  rcases Outcome.ite_err_eq_err.1 h with ⟨c, rfl⟩ | ⟨c8, h⟩
  · exact byteAt_ne b 2 0x02 (by omega) c
  rcases Outcome.ite_err_eq_err.1 h with ⟨c, rfl⟩ | ⟨c9, h⟩
  · simp only [DerViolates]
    rw [hr', c]
  rcases Outcome.ite_err_eq_err.1 h with ⟨c, rfl⟩ | ⟨c10, h⟩
  · exact ⟨(gb b 4).toNat, byteAt_gb b 4 (by omega), (and80_ne_zero _).1 c⟩
  rcases Outcome.ite_err_eq_err.1 h with ⟨c, rfl⟩ | ⟨c11, h⟩
  · refine ⟨rLen, (gb b 5).toNat, hr', c.1, ?_, byteAt_gb b 5 (by omega), (and80_eq_zero _).1 c.2.2⟩
    rw [byteAt_gb b 4 (by omega), c.2.1]; rfl
  rcases Outcome.ite_err_eq_err.1 h with ⟨c, rfl⟩ | ⟨c12, h⟩
  · exact ⟨rLen, hr', byteAt_ne b (4 + rLen) 0x02 (by omega) c⟩
  rcases Outcome.ite_err_eq_err.1 h with ⟨c, rfl⟩ | ⟨c13, h⟩
  · simp only [DerViolates]
    exact ⟨rLen, hr', by rw [hs', c]⟩
  rcases Outcome.ite_err_eq_err.1 h with ⟨c, rfl⟩ | ⟨c14, h⟩
  · exact ⟨rLen, (gb b (6 + rLen)).toNat, hr', byteAt_gb b _ (by omega), (and80_ne_zero _).1 c⟩
  rcases Outcome.ite_err_eq_err.1 h with ⟨c, rfl⟩ | ⟨c15, h⟩
  · refine ⟨rLen, sLen, (gb b (7 + rLen)).toNat, hr', hs', c.1, ?_, byteAt_gb b _ (by omega),
      (and80_eq_zero _).1 c.2.2⟩
    rw [byteAt_gb b _ (by omega), c.2.1]; rfl
  simp only [Outcome.bind_eq_err, reduceCtorEq, and_false, exists_false, or_false] at h
  rcases h with h | ⟨_, _, h⟩
  · rcases derInt_err _ _ _ _ h with ⟨rfl, hh⟩ | ⟨rfl, hh⟩ <;> exact ⟨rLen, hr', hh⟩
  · rcases derInt_err _ _ _ _ h with ⟨rfl, hh⟩ | ⟨rfl, hh⟩ <;> exact ⟨rLen, sLen, hr', hs', hh⟩

end Secp.Proofs.Der
