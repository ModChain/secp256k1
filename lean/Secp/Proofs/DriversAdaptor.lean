import Secp.Gen.Drivers
import Secp.Proofs.Chains
import Secp.Proofs.Adaptor
/-
  Proofs/DriversAdaptor — ellipticadaptor.go (pass T8): the regenerated `bigAffineToJacobian`, `jacobianToBigAffine`,
  `moduloReduce`, `KoblitzCurve.IsOnCurve/Add/Double/ScalarMult/ScalarBaseMult` and `PublicKey.X/Y` equal the
  hand-written models of Model/Bip32.lean and Model/Adaptor.lean.
-/
namespace Secp.Proofs.DriversAdaptor
open Secp.Spec Secp.Model Secp.Proofs.Chains

theorem jacobianToBigAffine_regenerated (q : Jac) : Secp.Gen.Drivers.jacobianToBigAffine q = jacToBig q := by
  unfold Secp.Gen.Drivers.jacobianToBigAffine jacToBig
  simp only []
  rw [Bytes.beNat_be32_of_lt (Nat.lt_trans (toAffineJ_lt q).1 Bytes.P_lt_pow),
    Bytes.beNat_be32_of_lt (Nat.lt_trans (toAffineJ_lt q).2 Bytes.P_lt_pow)]

/-- the raw coordinate conversion of `bigAffineToJacobian` (no reduction) is the model's `bigToField`
    reduced: `bigToField v = raw v % P` by definition -/
theorem bigToField_eq_raw_mod (v : Nat) : bigToField v = beNat ((minBytes v).take 32) % P := rfl

theorem raw_of_lt {v : Nat} (hv : v < P) : beNat ((minBytes v).take 32) = v :=
  Bytes.minBytes_take32 (Nat.lt_trans hv Bytes.P_lt_pow)

theorem bigAffineToJacobian_regenerated (x y : Nat) (r : Jac) (hx : x < P) (hy : y < P) :
    Secp.Gen.Drivers.bigAffineToJacobian x y r = (bigToField x, bigToField y, 1) := by
  unfold Secp.Gen.Drivers.bigAffineToJacobian
  simp only [raw_of_lt hx, raw_of_lt hy, Adaptor.bigToField_of_lt hx, Adaptor.bigToField_of_lt hy]

theorem moduloReduce_regenerated (k : Bytes) :
    Secp.Gen.Drivers.moduloReduce k = (if k.length > 32 then minBytes (beNat k % N) else k) := by
  unfold Secp.Gen.Drivers.moduloReduce
  by_cases h : k.length > 32 <;> simp [h]

theorem adaptorScalar_regenerated (k : Bytes) :
    (scalarSetByteSlice (Secp.Gen.Drivers.moduloReduce k)).1 = adaptorScalar k := by
  rw [moduloReduce_regenerated]; rfl

/-- `isOnCurveM` only multiplies, squares and adds: it cannot tell a value from its residue -/
theorem isOnCurveM_mod (a b : Nat) : isOnCurveM (a % P) (b % P) = isOnCurveM a b := by
  unfold isOnCurveM fsq fmul fadd
  rw [← Nat.mul_mod b b P, ← Nat.mul_mod a a P, Nat.mul_mod_mod]

/-- `x.Sign() == 0` on a non-negative big integer, as generated -/
theorem sign_eq_zero (x : Nat) : (((if x == 0 then 0 else 1) == 0) = true) = (x = 0) := by
  by_cases h : x = 0 <;> simp [h]

theorem add_regenerated (x1 y1 x2 y2 : Nat) (h1 : x1 < P) (h2 : y1 < P) (h3 : x2 < P) (h4 : y2 < P) :
    Secp.Gen.Drivers.adaptorAddGen x1 y1 x2 y2 = adaptorAdd (x1, y1) (x2, y2) := by
  unfold Secp.Gen.Drivers.adaptorAddGen adaptorAdd
  simp only [bigAffineToJacobian_regenerated _ _ _ h1 h2, bigAffineToJacobian_regenerated _ _ _ h3 h4,
    jacobianToBigAffine_regenerated, Bool.and_eq_true, sign_eq_zero]
  rfl

/-! ### Double

  No range hypothesis is needed: `curve.Double` only tests `y1.Sign() == 0` on the big integer and
  `Y.IsZero()` on the raw field value; when the raw Y is a non-zero multiple of P the generic
  formula runs and produces Z3 = 2·Y ≡ 0, which `ToAffine` maps to (0, 0), the same answer as the
  model's early exit on the reduced value. -/

theorem jacToBig_dblNC3_mod (X Y : Nat) :
    jacToBig (dblNC3 (X % P, Y % P, 1)) = jacToBig (dblNC3 (X, Y, 1)) := by
  by_cases hY : Y % P = 0
  · rw [(Adaptor.dblNC3_z1 _ _).1 hY]
    by_cases h0 : Y = 0
    · rw [(Adaptor.dblNC3_z1 _ _).1 h0]
    · obtain ⟨⟨X3, Y3, Z3⟩, h, hb, -, -, eZ⟩ := (Adaptor.dblNC3_z1 X Y).2 h0
      have : Z3 = 0 := by
        apply (cast_eq_zero_iff_of_lt hb.2.2).1
        rw [eZ, PointOps.dbZ, (ZMod.natCast_eq_zero_iff Y P).2 (Nat.dvd_of_mod_eq_zero hY)]
        ring
      rw [h, this, Adaptor.jacToBig_Z0, Adaptor.jacToBig_Z0]
  · obtain ⟨r, h, hb, eX, eY, eZ⟩ := (Adaptor.dblNC3_z1 (X % P) (Y % P)).2 hY
    obtain ⟨r', h', hb', eX', eY', eZ'⟩ := (Adaptor.dblNC3_z1 X Y).2 (fun h0 => hY (by rw [h0]; rfl))
    rw [h, h']
    simp only [ZMod.natCast_mod] at eX eY eZ
    rw [Prod.ext (eq_of_cast_eq_P hb.1 hb'.1 (eX.trans eX'.symm))
      (Prod.ext (eq_of_cast_eq_P hb.2.1 hb'.2.1 (eY.trans eY'.symm)) (eq_of_cast_eq_P hb.2.2 hb'.2.2 (eZ.trans eZ'.symm)))]

theorem double_regenerated' (x y : Nat) :
    Secp.Gen.Drivers.adaptorDoubleGen x y = adaptorDouble (x, y) := by
  unfold Secp.Gen.Drivers.adaptorDoubleGen adaptorDouble Secp.Gen.Drivers.bigAffineToJacobian
  simp only [jacobianToBigAffine_regenerated, bigToField_eq_raw_mod, sign_eq_zero]
  split
  · rfl
  rw [← jacToBig_dblNC3_mod]
  unfold dblNC3
  cases runNamed "DoubleNonConst" _ [] with
  | none => exact Adaptor.jacToBig_Z0 0 0
  | some r => rfl

/-- the form without range hypotheses is `double_regenerated'` -/
theorem double_regenerated (x y : Nat) (_hx : x < P) (_hy : y < P) :
    Secp.Gen.Drivers.adaptorDoubleGen x y = adaptorDouble (x, y) := double_regenerated' x y

theorem scalarMult_regenerated (x y : Nat) (k : Bytes) (hx : x < P) (hy : y < P) :
    Secp.Gen.Drivers.adaptorScalarMultGen x y k = adaptorScalarMult (x, y) k := by
  unfold Secp.Gen.Drivers.adaptorScalarMultGen adaptorScalarMult
  simp only [bigAffineToJacobian_regenerated _ _ _ hx hy, jacobianToBigAffine_regenerated,
    adaptorScalar_regenerated]

theorem scalarBaseMult_regenerated (k : Bytes) : Secp.Gen.Drivers.adaptorScalarBaseMultGen k = adaptorBaseMult k := by
  unfold Secp.Gen.Drivers.adaptorScalarBaseMultGen adaptorBaseMult
  simp only [jacobianToBigAffine_regenerated, adaptorScalar_regenerated]
  rfl

theorem pubKeyX_regenerated (p : Nat × Nat) (h : p.1 < 2^256) : Secp.Gen.Drivers.pubKeyX p = p.1 :=
  Bytes.beNat_be32_of_lt h

theorem pubKeyY_regenerated (p : Nat × Nat) (h : p.2 < 2^256) : Secp.Gen.Drivers.pubKeyY p = p.2 :=
  Bytes.beNat_be32_of_lt h

end Secp.Proofs.DriversAdaptor

#print axioms Secp.Proofs.DriversAdaptor.jacobianToBigAffine_regenerated
#print axioms Secp.Proofs.DriversAdaptor.add_regenerated
#print axioms Secp.Proofs.DriversAdaptor.double_regenerated'
#print axioms Secp.Proofs.DriversAdaptor.double_regenerated
#print axioms Secp.Proofs.DriversAdaptor.scalarMult_regenerated
#print axioms Secp.Proofs.DriversAdaptor.scalarBaseMult_regenerated
#print axioms Secp.Proofs.DriversAdaptor.pubKeyX_regenerated
#print axioms Secp.Proofs.DriversAdaptor.pubKeyY_regenerated
