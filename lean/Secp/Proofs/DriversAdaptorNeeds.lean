import Secp.Gen.Drivers
import Mathlib.Algebra.Group.Nat.Defs  -- `2^200` below is Mathlib's `Monoid.npow`, as everywhere in DriversAdaptor
/-
  Proofs/DriversAdaptorNeeds — the range hypotheses of `DriversAdaptor.add_regenerated` and
  `scalarMult_regenerated` are necessary: outside [0, P) the regenerated adaptor compares raw values
  where the model compares residues.  One witness per hypothesis, each a kernel evaluation of the regenerated
  function: `y1`, `x2`, `y2` of `add` and `x` of `ScalarMult` here; the witness for `x1` of `add` is
  `Secp.Props.C15.add_needs_range`.
-/
-- the witnesses carry the namespace of the theorems they qualify (Proofs/DriversAdaptor.lean)
namespace Secp.Proofs.DriversAdaptor
open Secp.Spec Secp.Model

theorem add_needs_y1 : Secp.Gen.Drivers.adaptorAddGen 0 P 3 7 ≠ adaptorAdd (0, P) (3, 7) := by decide +kernel
theorem add_needs_x2 :
    Secp.Gen.Drivers.adaptorAddGen 3 7 (P + 3) 7 ≠ adaptorAdd (3, 7) (P + 3, 7) := by decide +kernel
theorem add_needs_y2 : Secp.Gen.Drivers.adaptorAddGen 3 7 0 P ≠ adaptorAdd (3, 7) (0, P) := by decide +kernel

/-- `hx` of `scalarMult_regenerated` is necessary: with raw X = P the first addition of the loop
    compares the raw X of the accumulator (a copy of the point) with the normalised β·X of the
    endomorphism image (`Equals` on raw values), the model compares 0 with 0.  The scalar is one whose two halves
    under `splitK` have NAFs of the same length (16 bytes each), so that the point and its image are both added
    within the first byte of the loop. -/
theorem scalarMult_needs_x :
    Secp.Gen.Drivers.adaptorScalarMultGen P 5 (be32 (0x9e3779b97f4a7c15f39cc0605cedc834 + 2^200 + 1)) ≠
      adaptorScalarMult (P, 5) (be32 (0x9e3779b97f4a7c15f39cc0605cedc834 + 2^200 + 1)) := by decide +kernel

end Secp.Proofs.DriversAdaptor

#print axioms Secp.Proofs.DriversAdaptor.add_needs_y1
#print axioms Secp.Proofs.DriversAdaptor.scalarMult_needs_x
