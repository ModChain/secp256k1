import Secp.Gen.Drivers
import Secp.Proofs.PubKey
import Secp.Proofs.Buffers
/-
  Proofs/DriversBip32 — ecckd/version.go and ecckd/extended.go (pass T8): the regenerated `KeyVersion.IsPrivate`,
  `KeyVersion.ToPublic` and `ExtendedKey.UnmarshalBinary` equal the hand-written models of Model/Bip32.lean.
-/
namespace Secp.Proofs.DriversBip32
open Secp.Spec Secp.Model Secp.Proofs.Buffers

theorem versionIsPrivate_regenerated (v : Bytes) : Secp.Gen.Drivers.versionIsPrivateGen v = versionIsPrivate v := by
  unfold Secp.Gen.Drivers.versionIsPrivateGen versionIsPrivate
  unfold Secp.Gen.Drivers.pv_BitcoinMainnetPrivate Secp.Gen.Drivers.pv_BitcoinTestnetPrivate
    mainnetPriv testnetPriv
  split <;> simp_all

theorem versionToPublic_regenerated (v : Bytes) : Secp.Gen.Drivers.versionToPublicGen v = versionToPublic v := by
  unfold Secp.Gen.Drivers.versionToPublicGen versionToPublic
  unfold Secp.Gen.Drivers.pv_BitcoinMainnetPrivate Secp.Gen.Drivers.pv_BitcoinTestnetPrivate
    Secp.Gen.Drivers.pv_BitcoinMainnetPublic Secp.Gen.Drivers.pv_BitcoinTestnetPublic
    mainnetPriv testnetPriv mainnetPub testnetPub
  rfl

theorem unmarshalBinary_regenerated (k : Bytes × Nat × Bytes × Nat × Bytes × Bytes × Unit) (data : Bytes) :
    Secp.Gen.Drivers.unmarshalBinary k data =
      (match unmarshal data with
       | .ok e => DR.ok (e.version, e.depth, e.fingerprint, e.childNumber, e.keyData, e.chainCode, ())
       | .error err => DR.err err) := by
  unfold Secp.Gen.Drivers.unmarshalBinary unmarshal
  by_cases hlen : data.length = 82
  swap
  · simp [hlen]
  simp only [hlen, bne_self_eq_false, Bool.false_eq_true, if_false, Nat.reduceLT, decide_false, Nat.reduceSub,
    List.drop_zero, ne_eq, not_true_eq_false]
  generalize hp : data.take 78 = pl
  have hpl : pl.length = 78 := by rw [← hp, List.length_take, hlen]; rfl
  -- `copy(k.Version[:], payload[:4])`, `copy(k.Fingerprint[:], payload[5:9])` fill their arrays
  rw [copy0_eq_copyAt, copy0_eq_copyAt, copyAt_zero_full _ (pl.take 4) (by simp [hpl]),
    copyAt_zero_full _ ((pl.take 9).drop 5) (by simp [hpl])]
  -- three reads are spelled differently on the two sides; each bridge is optional (`simp only`, not `rw`): a read that
  -- the generated text comes to spell as the model does needs none
  have hd : ((pl.take 5).drop 4).getD 0 0 = pl.getD 4 0 := by
    simp [List.getD_eq_getElem?_getD, hpl]
  have hc : ((pl.take 13).drop 9).take 4 = (pl.take 13).drop 9 := List.take_of_length_le (by simp [hpl])
  have hk : ((((pl.take 78).drop 45).getD 0 0).toNat == 0) = (((pl.take 78).drop 45).headD 1 == 0) := by
    have hne : 0 < ((pl.take 78).drop 45).length := by simp [hpl]
    generalize (pl.take 78).drop 45 = kd at hne
    cases kd with
    | nil => simp at hne
    | cons x xs => simp [← UInt8.toNat_inj]
  simp only [hd, hc, hk]
  generalize (pl.take 78).drop 45 = kd
  by_cases hck : data.drop 78 = (doubleSha256 pl).take 4
  swap
  · simp [hck]
  simp only [hck, beq_self_eq_true, Bool.not_true, Bool.false_eq_true, not_true_eq_false, if_false]
  by_cases hf : ((kd.headD 1 == 0) != versionIsPrivate (pl.take 4)) = true
  · simp only [hf, if_true]
  simp only [hf, Bool.false_eq_true, if_false]
  rcases Bool.eq_false_or_eq_true (kd.headD 1 == 0) with hpriv | hpriv
  · simp only [hpriv, if_true]
    generalize beNat (kd.drop 1) = t
    by_cases h1 : t ≥ N <;> by_cases h0 : t = 0 <;> simp [h1, h0]
  · simp only [hpriv, Bool.false_eq_true, if_false]
    cases hpk : parsePubKey kd with
    | panic => exact absurd hpk (Secp.Proofs.PubKey.parsePubKey_no_panic kd)
    | _ => rfl

theorem unmarshalBinary_receiver_indep (k k' : Bytes × Nat × Bytes × Nat × Bytes × Bytes × Unit) (data : Bytes) :
    Secp.Gen.Drivers.unmarshalBinary k data = Secp.Gen.Drivers.unmarshalBinary k' data := by
  rw [unmarshalBinary_regenerated, unmarshalBinary_regenerated]

theorem unmarshalBinary_total (k : Bytes × Nat × Bytes × Nat × Bytes × Bytes × Unit) (data : Bytes) :
    Secp.Gen.Drivers.unmarshalBinary k data ≠ .undef ∧ Secp.Gen.Drivers.unmarshalBinary k data ≠ .panic
      ∧ Secp.Gen.Drivers.unmarshalBinary k data ≠ .fuel := by
  rw [unmarshalBinary_regenerated]
  cases unmarshal data <;> simp

end Secp.Proofs.DriversBip32

#print axioms Secp.Proofs.DriversBip32.versionIsPrivate_regenerated
#print axioms Secp.Proofs.DriversBip32.versionToPublic_regenerated
#print axioms Secp.Proofs.DriversBip32.unmarshalBinary_regenerated
#print axioms Secp.Proofs.DriversBip32.unmarshalBinary_receiver_indep
#print axioms Secp.Proofs.DriversBip32.unmarshalBinary_total
