import Secp.Gen.Drivers
import Secp.Proofs.PubKey
import Secp.Proofs.Adaptor
import Secp.Proofs.Bip32
import Secp.Proofs.Buffers
import Secp.Proofs.DriversAdaptor
/-
  Proofs/DriversChild — ecckd/extended.go derivation (pass T8): the regenerated `isEven`,
  `serializeCompressedEcdsa`, `pubKeyBytes`, `ChildWithIL`, `Child`, and the loops of `DeriveWithIL` / `Derive`
  equal the hand-written models of Model/Bip32.lean.
-/
namespace Secp.Proofs.DriversChild
open Secp.Spec Secp.Model Secp.Proofs.Buffers

/-- an extended key as the tuple the translator uses for `ExtendedKey` (the parameter type of
    `Secp.Gen.Drivers.childWithILGen`, fields in the order of the Go struct; a changed struct changes that type and
    this definition with it) -/
def tup (e : ExtKey) : Bytes × Nat × Bytes × Nat × Bytes × Bytes × Unit :=
  (e.version, e.depth, e.fingerprint, e.childNumber, e.keyData, e.chainCode, ())

theorem isEven_regenerated (n : Nat) : Secp.Gen.Drivers.isEvenGen n = decide (n % 2 = 0) := by
  unfold Secp.Gen.Drivers.isEvenGen
  simp only [Nat.and_one_is_mod]
  by_cases h : n % 2 = 0 <;> simp [h]

theorem serializeCompressedEcdsa_regenerated (x y : Nat) :
    Secp.Gen.Drivers.serializeCompressedEcdsa ((), x, y) = serCompressedXY (x, y) := by
  unfold Secp.Gen.Drivers.serializeCompressedEcdsa serCompressedXY
  have hl : (beBytes 32 x).length = 32 := Bytes.beBytes_length 32 x
  simp only [isEven_regenerated]
  by_cases h : y % 2 = 0 <;> simp [h, hl, List.replicate_succ, List.take_of_length_le]

theorem pubKeyBytes_regenerated (e : ExtKey) : Secp.Gen.Drivers.pubKeyBytes (tup e) = e.pubKeyBytes := by
  unfold Secp.Gen.Drivers.pubKeyBytes ExtKey.pubKeyBytes ExtKey.isPrivate tup
  simp only [DriversAdaptor.scalarBaseMult_regenerated]
  split
  · rfl
  · generalize adaptorBaseMult e.keyData = p
    obtain ⟨x, y⟩ := p
    exact serializeCompressedEcdsa_regenerated x y

-- `2147483648` is the literal of the generated text, `0x80000000` that of `Model.childWithIL`
theorem hardened_test (i : Nat) (hi : i < 2 ^ 32) :
    ((i &&& 2147483648) == 2147483648) = decide (i ≥ 0x80000000) := by
  have h1 : (i &&& 2147483648) / 2 ^ 31 = i / 2 ^ 31 % 2 := by
    rw [Nat.and_div_two_pow, show 2147483648 / 2 ^ 31 = 1 from rfl, Nat.and_one_is_mod]
  have h2 : (i &&& 2147483648) % 2 ^ 31 = 0 := by
    rw [Nat.and_mod_two_pow, show 2147483648 % 2 ^ 31 = 0 from rfl, Nat.and_zero]
  by_cases h3 : i ≥ 0x80000000
  · have : i &&& 2147483648 = 2147483648 := by omega
    simp [this, h3]
  · have : i &&& 2147483648 ≠ 2147483648 := by omega
    simp [this, h3]

/-- Go `copy(fp[:], h)` into a zeroed `[4]byte`: the first four bytes of `h`, zero-padded on the right
    when `h` is shorter than four bytes (the `Fingerprint` store of `Secp.Gen.Drivers.childWithILGen`, which
    `childWithIL_regenerated_raw` rewrites to this by `copy0_eq_copyAt`) -/
def copyFp (h : Bytes) : Bytes := copyAt (List.replicate 4 0) 0 h

theorem copyFp_eq (h : Bytes) : copyFp h = h.take 4 ++ List.replicate (4 - h.length) 0 := by
  unfold copyFp copyAt
  simp only [List.take_zero, List.nil_append, List.length_replicate, Nat.sub_zero, Nat.zero_add,
    List.drop_replicate]
  congr 2
  omega

theorem copyFp_eq_take_iff (h : Bytes) : copyFp h = h.take 4 ↔ 4 ≤ h.length := by
  rw [copyFp_eq]
  constructor
  · intro hh
    have := congrArg List.length hh
    simp only [List.length_append, List.length_take, List.length_replicate] at this
    omega
  · intro hl
    rw [show 4 - h.length = 0 by omega]; simp

/-- the 37-byte HMAC input of `ChildWithIL`: `ser32(i)` stored at offset 33 behind the key (offset 1, private) or
    the public key (offset 0); left as `Secp.Gen.Drivers.childWithILGen` has it after `copy_eq_copyAt`, right as
    one `copyAt` -/
theorem seed33 (c : Prop) [Decidable c] (A B s : Bytes) (hs : s.length = 4) :
    (if c then copyAt (List.replicate (33 + 4) (0 : UInt8)) 1 A
        else copyAt (List.replicate (33 + 4) (0 : UInt8)) 0 B).take 33 ++ s.take 4 ++
      (if c then copyAt (List.replicate (33 + 4) (0 : UInt8)) 1 A
        else copyAt (List.replicate (33 + 4) (0 : UInt8)) 0 B).drop (33 + 4) =
    copyAt (if c then copyAt (List.replicate 37 (0 : UInt8)) 1 A
        else copyAt (List.replicate 37 (0 : UInt8)) 0 B) 33 s := by
  generalize hD : (if c then copyAt (List.replicate (33 + 4) (0 : UInt8)) 1 A
        else copyAt (List.replicate (33 + 4) (0 : UInt8)) 0 B) = D
  have hl : D.length = 37 := by
    rw [← hD]; split <;> rw [copyAt_length _ _ _ (by simp)] <;> simp
  exact write_eq_copyAt D s 33 4 (by rw [hl, hs]; rfl)

/-- what `ChildWithIL` does with the two narrow fields: `Depth` is a `uint8`, `Fingerprint` a `[4]byte` -/
def narrow (O : Oracles) (e c : ExtKey) : ExtKey :=
  { c with depth := (e.depth + 1) % 256, fingerprint := copyFp (O.hash160 e.pubKeyBytes) }

/-- `i < 2^32`: the Go parameter is a `uint32` -/
theorem childWithIL_regenerated_raw
    (O : Oracles) (e : ExtKey) (i : Nat) (hi : i < 2^32) :
    Secp.Gen.Drivers.childWithILGen O (tup e) i =
      (match childWithIL O e i with
       | .ok (il, c) => DR.ok (il, tup (narrow O e c))
       | .error err => DR.err err) := by
  unfold Secp.Gen.Drivers.childWithILGen childWithIL
  rw [pubKeyBytes_regenerated]
  simp only [tup, hardened_test i hi, copy_eq_copyAt, copy0_eq_copyAt, ExtKey.isPrivate, narrow, copyFp,
    decide_eq_true_eq, seed33 _ _ _ _ (Bytes.beBytes_length 4 i), ser32, Bool.or_eq_true, DriversAdaptor.sign_eq_zero]
  by_cases hdep : e.depth = 255
  · simp [hdep]
  simp only [hdep, beq_iff_eq, if_false]
  obtain ⟨sk, cc', ok, hr⟩ : ∃ sk cc' ok, hmacCKD O (Bip32.seedOf e i) e.chainCode = (sk, cc', ok) := ⟨_, _, _, rfl⟩
  simp only [Bip32.seedOf, ser32] at hr
  simp only [hr]
  by_cases hh : (!versionIsPrivate e.version && decide (i ≥ 2147483648)) = true
  · simp only [hh, if_true]
  simp only [hh, Bool.false_eq_true, if_false]
  rcases Bool.eq_false_or_eq_true ok with hok | hok
  swap
  · simp [hok]
  simp only [hok, Bool.not_true, Bool.false_eq_true, if_false]
  rcases Bool.eq_false_or_eq_true (versionIsPrivate e.version) with hpriv | hpriv
  · simp only [hpriv, if_true]
  simp only [hpriv, Bool.false_eq_true, if_false, DriversAdaptor.scalarBaseMult_regenerated]
  obtain ⟨hk1, hk2⟩ := Adaptor.adaptorBaseMult_lt sk
  split
  · rfl
  cases hpp : parsePubKey e.keyData with
  | panic => exact absurd hpp (Secp.Proofs.PubKey.parsePubKey_no_panic _)
  | err pe => rfl
  | ok pub =>
    obtain ⟨px, py⟩ := pub
    obtain ⟨⟨hpx, hpy, _⟩, _⟩ := Secp.Proofs.PubKey.valid_of_parse _ _ _ hpp
    simp only []
    rw [DriversAdaptor.pubKeyX_regenerated _ (Nat.lt_trans hpx Bytes.P_lt_pow),
      DriversAdaptor.pubKeyY_regenerated _ (Nat.lt_trans hpy Bytes.P_lt_pow), DriversAdaptor.add_regenerated _ _ _ _ hk1 hk2 hpx hpy]
    obtain ⟨hc1, hc2⟩ := Adaptor.adaptorAdd_lt (adaptorBaseMult sk) (px, py) hk1 hk2 hpx hpy
    rw [Adaptor.bigToField_of_lt hc1, Adaptor.bigToField_of_lt hc2, DriversAdaptor.raw_of_lt hc1,
      DriversAdaptor.raw_of_lt hc2]

theorem childWithIL_regenerated' (O : Oracles) (e : ExtKey) (i : Nat)
    (hd : e.depth < 256) (hi : i < 2^32)
    (hfp : 4 ≤ (O.hash160 e.pubKeyBytes).length) :
    Secp.Gen.Drivers.childWithILGen O (tup e) i =
      (match childWithIL O e i with
       | .ok (il, c) => DR.ok (il, tup c)
       | .error err => DR.err err) := by
  rw [childWithIL_regenerated_raw O e i hi]
  cases hc : childWithIL O e i with
  | error err => rfl
  | ok r =>
    obtain ⟨il, c⟩ := r
    obtain ⟨h1, h2, h3⟩ := Bip32.childWithIL_ok_fields O e i il c hc
    have hn : narrow O e c = c := by
      unfold narrow
      rw [(copyFp_eq_take_iff _).2 hfp, ← h3, show (e.depth + 1) % 256 = c.depth by omega]
    simp only [hn]

/-- the form without the four adaptor hypotheses (theorems of `Proofs/DriversAdaptor.lean`) is
    `childWithIL_regenerated'` -/
theorem childWithIL_regenerated
    (hBase : ∀ k : Bytes, Secp.Gen.Drivers.adaptorScalarBaseMultGen k = adaptorBaseMult k)
    (hAdd : ∀ x1 y1 x2 y2 : Nat, x1 < P → y1 < P → x2 < P → y2 < P →
      Secp.Gen.Drivers.adaptorAddGen x1 y1 x2 y2 = adaptorAdd (x1, y1) (x2, y2))
    (hX : ∀ p : Nat × Nat, p.1 < 2^256 → Secp.Gen.Drivers.pubKeyX p = p.1)
    (hY : ∀ p : Nat × Nat, p.2 < 2^256 → Secp.Gen.Drivers.pubKeyY p = p.2)
    (O : Oracles) (e : ExtKey) (i : Nat)
    (hd : e.depth < 256) (hi : i < 2^32)
    (hfp : 4 ≤ (O.hash160 e.pubKeyBytes).length) :
    Secp.Gen.Drivers.childWithILGen O (tup e) i =
      (match childWithIL O e i with
       | .ok (il, c) => DR.ok (il, tup c)
       | .error err => DR.err err) :=
  childWithIL_regenerated' O e i hd hi hfp

/-- the two side conditions are exactly what is needed: with `i < 2^32`, the regenerated function agrees with the
    model if and only if the model returns an error or (`Depth` fits a `uint8` and the hash160 oracle answers with
    at least four bytes).  No condition on the lengths of `keyData`, `chainCode` or of the HMAC output. -/
theorem childWithIL_regenerated_iff
    (hBase : ∀ k : Bytes, Secp.Gen.Drivers.adaptorScalarBaseMultGen k = adaptorBaseMult k)
    (hAdd : ∀ x1 y1 x2 y2 : Nat, x1 < P → y1 < P → x2 < P → y2 < P →
      Secp.Gen.Drivers.adaptorAddGen x1 y1 x2 y2 = adaptorAdd (x1, y1) (x2, y2))
    (hX : ∀ p : Nat × Nat, p.1 < 2^256 → Secp.Gen.Drivers.pubKeyX p = p.1)
    (hY : ∀ p : Nat × Nat, p.2 < 2^256 → Secp.Gen.Drivers.pubKeyY p = p.2)
    (O : Oracles) (e : ExtKey) (i : Nat) (hi : i < 2^32) :
    (Secp.Gen.Drivers.childWithILGen O (tup e) i =
      (match childWithIL O e i with
       | .ok (il, c) => DR.ok (il, tup c)
       | .error err => DR.err err)) ↔
    ((∃ err, childWithIL O e i = .error err) ∨
      (e.depth < 256 ∧ 4 ≤ (O.hash160 e.pubKeyBytes).length)) := by
  constructor
  · intro h
    rw [childWithIL_regenerated_raw O e i hi] at h
    cases hc : childWithIL O e i with
    | error err => exact Or.inl ⟨err, rfl⟩
    | ok r =>
      obtain ⟨il, c⟩ := r
      obtain ⟨h1, h2, h3⟩ := Bip32.childWithIL_ok_fields O e i il c hc
      rw [hc] at h
      simp only [narrow, tup, DR.ok.injEq, Prod.mk.injEq, true_and] at h
      obtain ⟨hdp, hf, _⟩ := h
      right
      refine ⟨by omega, ?_⟩
      rw [h3] at hf
      exact (copyFp_eq_take_iff _).1 hf
  · rintro (⟨err, herr⟩ | ⟨hd, hfp⟩)
    · rw [childWithIL_regenerated_raw O e i hi, herr]
    · exact childWithIL_regenerated' O e i hd hi hfp

end Secp.Proofs.DriversChild

#print axioms Secp.Proofs.DriversChild.isEven_regenerated
#print axioms Secp.Proofs.DriversChild.serializeCompressedEcdsa_regenerated
#print axioms Secp.Proofs.DriversChild.pubKeyBytes_regenerated
#print axioms Secp.Proofs.DriversChild.childWithIL_regenerated_raw
#print axioms Secp.Proofs.DriversChild.childWithIL_regenerated
#print axioms Secp.Proofs.DriversChild.childWithIL_regenerated_iff

-- `ExtendedKey.Child`; Props/C12 cites it under this namespace (`Front…`: the exported entry points of the API, as
-- opposed to the unexported functions that do the work; a `*_front` theorem says what the entry point forwards to)
namespace Secp.Proofs.FrontBip
open Secp.Spec Secp.Model

theorem child_front (O : Oracles) (k : Bytes × Nat × Bytes × Nat × Bytes × Bytes × Unit) (i : Nat) :
    Secp.Gen.Drivers.childGen O k i =
      (match Secp.Gen.Drivers.childWithILGen O k i with
       | .ok (_, ek) => DR.ok ek | .err e => DR.err e | .panic => DR.panic | .fuel => DR.fuel
       | .undef => DR.undef) := by
  unfold Secp.Gen.Drivers.childGen
  cases Secp.Gen.Drivers.childWithILGen O k i <;> rfl

end Secp.Proofs.FrontBip

-- `DeriveWithIL` and `Derive`; Props/C12 and the audit lines cite them under this namespace
namespace Secp.Proofs.DriversDerive
open Secp.Spec Secp.Model

open Secp.Proofs.DriversChild (tup)

/-- the accumulation of the tweak: generated form vs model form -/
theorem deriveWithIL_loop_regenerated (O : Oracles) (k : Bytes × Nat × Bytes × Nat × Bytes × Bytes × Unit)
    (path0 : List Nat)
    (hfp : ∀ x, 4 ≤ (O.hash160 x).length) (path : List Nat) (hp : ∀ i ∈ path, i < 2^32) (e : ExtKey)
    (hd : e.depth < 256) (il : Option Nat) :
    Secp.Gen.Drivers.deriveWithILGen_loop O k path0 il (tup e) path =
      (match deriveWithIL O e path il with | .ok (t, c) => DR.ok (t, tup c) | .error err => DR.err err) := by
  induction path generalizing e il with
  | nil => rfl
  | cons i rest ih =>
    obtain ⟨hi, hrest⟩ := List.forall_mem_cons.1 hp
    unfold Secp.Gen.Drivers.deriveWithILGen_loop deriveWithIL
    rw [Secp.Proofs.DriversChild.childWithIL_regenerated' O e i hd hi (hfp _)]
    cases hc : childWithIL O e i with
    | error err => rfl
    | ok r =>
      obtain ⟨cur, c⟩ := r
      obtain ⟨h1, h2, _⟩ := Secp.Proofs.Bip32.childWithIL_ok_fields O e i cur c hc
      have hcd : c.depth < 256 := by omega
      -- reduces the match on `.ok (cur, c)` and the `let`s; the accumulation of the tweak (`if il.isNone …` in
      -- `Secp.Gen.Drivers.deriveWithILGen_loop`, `match il with …` in the model) agrees case by case by `rfl`
      simp only []
      cases il <;> exact ih hrest c hcd _

theorem derive_loop_regenerated (O : Oracles) (k : Bytes × Nat × Bytes × Nat × Bytes × Bytes × Unit)
    (path0 : List Nat)
    (hfp : ∀ x, 4 ≤ (O.hash160 x).length) (path : List Nat) (hp : ∀ i ∈ path, i < 2^32) (e : ExtKey)
    (hd : e.depth < 256) (il : Option Nat) :
    Secp.Gen.Drivers.deriveGen_loop O k path0 (tup e) path =
      (match deriveWithIL O e path il with | .ok (_, c) => DR.ok (tup c) | .error err => DR.err err) := by
  induction path generalizing e il with
  | nil => rfl
  | cons i rest ih =>
    obtain ⟨hi, hrest⟩ := List.forall_mem_cons.1 hp
    unfold Secp.Gen.Drivers.deriveGen_loop deriveWithIL
    rw [Secp.Proofs.FrontBip.child_front, Secp.Proofs.DriversChild.childWithIL_regenerated' O e i hd hi (hfp _)]
    cases hc : childWithIL O e i with
    | error err => rfl
    | ok r =>
      obtain ⟨cur, c⟩ := r
      obtain ⟨h1, h2, _⟩ := Secp.Proofs.Bip32.childWithIL_ok_fields O e i cur c hc
      have hcd : c.depth < 256 := by omega
      simp only []
      exact ih hrest c hcd _

end Secp.Proofs.DriversDerive

#print axioms Secp.Proofs.DriversDerive.deriveWithIL_loop_regenerated
