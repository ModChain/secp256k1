import Secp.Gen.Drivers
import Secp.Proofs.Bytes
/-
  Proofs/DriversCompact — signature.go (pass T8): the regenerated `Signature.ExportCompact` equals `exportCompactM`,
  and `SignCompact` is `signRFC6979` followed by it.
-/
namespace Secp.Proofs.DriversCompact
open Secp.Spec Secp.Model

theorem exportCompact_regenerated (r s v off : Nat) (first : Bool) :
    Secp.Gen.Drivers.exportCompact (r, s, v) first off = exportCompactM r s v first off := by
  unfold Secp.Gen.Drivers.exportCompact exportCompactM exportM
  by_cases hs : s > halfN <;> cases first <;>
    simp [hs, Bytes.take_be32, Bytes.be32_length, List.take_append, List.drop_append]

theorem signCompact_regenerated (d : Nat) (h : Bytes) (c : Bool) :
    Secp.Gen.Drivers.signCompact d h c = (match Secp.Gen.Drivers.signRFC6979 d h with
      | .ok (r, s, v) => DR.ok (exportCompactM r s v true (27 + (if c then 4 else 0)))
      | .err e => DR.err e | .panic => DR.panic | .fuel => DR.fuel | .undef => DR.undef) := by
  unfold Secp.Gen.Drivers.signCompact
  cases Secp.Gen.Drivers.signRFC6979 d h with
  | ok sig =>
    obtain ⟨r, s, v⟩ := sig
    cases c <;> simp [exportCompact_regenerated]
  | _ => rfl

end Secp.Proofs.DriversCompact
