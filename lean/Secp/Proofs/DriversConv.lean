import Secp.Gen.Drivers
import Secp.Proofs.Buffers
/-
  Proofs/DriversConv — signature.go (pass T8): `modNScalarToField`, the scalar → field conversion that `sign`,
  `Signature.Verify` and `RecoverPublicKey` all call.  It stands in a module of its own so that none of the three
  driver files rests on another: a function of one of them leaving the translated subset fails that file only.
-/
namespace Secp.Proofs.DriversConv
open Secp.Spec Secp.Model Secp.Proofs.Buffers Secp.Proofs.Bytes

theorem modNScalarToField_regenerated (v : Nat) (hv : v < 2^256) : Secp.Gen.Drivers.modNScalarToField v = v := by
  unfold Secp.Gen.Drivers.modNScalarToField
  simp only [write_full _ _ (Bytes.be32_length v), beNat_be32_of_lt hv]

end Secp.Proofs.DriversConv
