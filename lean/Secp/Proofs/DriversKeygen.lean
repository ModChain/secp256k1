import Secp.Gen.Drivers
import Secp.Proofs.Buffers
/-
  Proofs/DriversKeygen — privkey.go (pass T8): the regenerated `PrivKeyFromBytes` and `generatePrivateKey` (the
  reader state threaded through the retry loop) equal the hand-written models of Model/PrivKey.lean.
-/
namespace Secp.Proofs.DriversKeygen
open Secp.Spec Secp.Model

private theorem be32_length' (v : Nat) : (be32 v).length = 32 := Secp.Proofs.Bytes.be32_length v

theorem privKeyFromBytes_regenerated (b : Bytes) :
    Secp.Gen.Drivers.privKeyFromBytes b = Secp.Model.privKeyFromBytes b := by
  rfl

theorem readFull32_ok {rd rd' : Reader} {blk : Bytes}
    (h : readFull32 rd = (.ok blk, rd')) :
    blk = rd.data.take 32 ∧ rd'.data = rd.data.drop 32 ∧ 32 ≤ rd.data.length := by
  unfold readFull32 at h
  split at h
  · rename_i hge
    simp only [Prod.mk.injEq, Except.ok.injEq] at h
    obtain ⟨rfl, rfl⟩ := h
    exact ⟨rfl, rfl, hge⟩
  · split at h <;> simp at h

theorem readFull32_len_le (rd : Reader) :
    (readFull32 rd).2.data.length ≤ rd.data.length := by
  unfold readFull32
  split
  · simp
  · split <;> simp

theorem loop_true (rd : Reader) (key : Nat) (b32 : Bytes) (n : Nat) :
    Secp.Gen.Drivers.generatePrivateKey_loop rd key b32 (n + 1) true = (.ok key, rd) := by
  simp [Secp.Gen.Drivers.generatePrivateKey_loop]

/-- privkey.go `valid = (key.Key.IsZeroBit() | overflow) == 0`, as generated -/
theorem valid_eq (k : Nat) (ov : Bool) :
    ((((if k == 0 then 1 else 0) ||| (if ov then 1 else 0) : Nat)) == 0)
      = decide (k ≠ 0 ∧ ¬ ov = true) := by
  by_cases hk : k = 0 <;> cases ov <;> simp [hk]

/-- the third conjunct (the reader only shrinks) is what lets the second, a ℕ subtraction, through `omega` in the
    induction step; `generatePrivateKey_regenerated` drops it -/
theorem generatePrivateKey_loop_eq (fuel : Nat) :
    ∀ (rd : Reader) (key : Nat) (b32 : Bytes) (used : Nat),
      rd.data.length / 32 + 1 ≤ fuel →
      (Secp.Gen.Drivers.generatePrivateKey_loop rd key b32 fuel false).1
          = (match (Secp.Model.generatePrivateKey.go fuel rd used).1 with
              | .ok k => DR.ok k | .error e => DR.err e)
        ∧ used + (rd.data.length
            - (Secp.Gen.Drivers.generatePrivateKey_loop rd key b32 fuel false).2.data.length)
          = (Secp.Model.generatePrivateKey.go fuel rd used).2
        ∧ (Secp.Gen.Drivers.generatePrivateKey_loop rd key b32 fuel false).2.data.length
          ≤ rd.data.length := by
  induction fuel with
  | zero => intro rd key b32 used h; omega
  | succ n ih =>
    intro rd key b32 used hfuel
    unfold Secp.Gen.Drivers.generatePrivateKey_loop Secp.Model.generatePrivateKey.go
    simp only [Bool.not_false, if_true]
    have hle := readFull32_len_le rd
    rcases hrf : readFull32 rd with ⟨res, rd'⟩
    rw [hrf] at hle
    cases res with
    | error e => simpa using hle
    | ok blk =>
      obtain ⟨hblk, hrd', hlen⟩ := readFull32_ok hrf
      have hbl : blk.length ≤ 32 := hblk ▸ List.length_take_le 32 _
      have hrdlen : rd'.data.length = rd.data.length - 32 := by rw [hrd']; simp
      have hfuel' : rd'.data.length / 32 + 1 ≤ n := by rw [hrdlen]; omega
      simp only [Secp.Proofs.Buffers.scalarSetBytes32_eq blk hbl]
      rcases hss : scalarSetByteSlice blk with ⟨k, ov⟩
      simp only [valid_eq]
      by_cases hv : k ≠ 0 ∧ ¬ ov = true
      · obtain ⟨m, rfl⟩ : ∃ m, n = m + 1 := ⟨n - 1, by omega⟩
        rw [decide_eq_true hv, if_pos hv, loop_true]
        refine ⟨rfl, ?_, ?_⟩
        · show used + (rd.data.length - rd'.data.length) = used + 32
          omega
        · show rd'.data.length ≤ rd.data.length
          omega
      · obtain ⟨ih1, ih2, ih3⟩ := ih rd' k blk (used + 32) hfuel'
        rw [decide_eq_false hv, if_neg hv]
        refine ⟨ih1, ?_, ?_⟩ <;> omega

theorem generatePrivateKey_regenerated (rd : Reader) :
    (Secp.Gen.Drivers.generatePrivateKey rd).1
        = (match (Secp.Model.generatePrivateKey rd).1 with
            | .ok k => DR.ok k | .error e => DR.err e)
      ∧ rd.data.length - (Secp.Gen.Drivers.generatePrivateKey rd).2.data.length
        = (Secp.Model.generatePrivateKey rd).2 := by
  unfold Secp.Gen.Drivers.generatePrivateKey Secp.Model.generatePrivateKey
  have := generatePrivateKey_loop_eq (rd.data.length / 32 + 1) rd 0
    (List.replicate 32 (0 : UInt8)) 0 (Nat.le_refl _)
  refine ⟨this.1, ?_⟩
  have h2 := this.2.1
  rw [Nat.zero_add] at h2
  exact h2

end Secp.Proofs.DriversKeygen
