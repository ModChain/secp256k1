import Secp.Gen.Drivers
import Secp.Proofs.ScalarMultNaf
/-
  Proofs/DriversNaf — the regenerated `naf` (curve.go), an index loop writing into two 33-byte
  arrays with uint16 arithmetic on naturals, equals the model `Secp.Model.naf` (a walk over the
  reversed byte list with UInt8/UInt16 machine arithmetic).
-/

namespace Secp.Proofs.DriversNaf
open Secp.Spec Secp.Model Secp.Proofs.Bytes Secp.Proofs.ScalarMultNaf

/-- one iteration of the generated loop on naturals; `hw` is `(nextWord <<< 7) % 256` -/
def gStep (b c hw : Nat) : UInt8 × UInt8 × Nat :=
  let kc := (b + c) % 65536
  let halfK := (kc >>> 1) ||| hw
  let threeHalfK := (kc + halfK) % 65536
  let nz := threeHalfK ^^^ halfK
  (UInt8.ofNat ((threeHalfK &&& nz) % 256), UInt8.ofNat ((halfK &&& nz) % 256),
    (threeHalfK >>> 8) % 256)

/-- `gStep` and `nafStep` agree on one (b, c, h) triple; a Bool, for the exhaustive check in `gStep_eq` -/
def stepCheck (b c h : Nat) : Bool :=
  let s := nafStep (UInt8.ofNat b) (UInt8.ofNat c) (UInt8.ofNat (128 * h))
  let g := gStep b c (128 * h)
  g.1 == s.1 && g.2.1 == s.2.1 && g.2.2 == s.2.2.toNat

theorem gStep_eq (b w c : UInt8) (hc : c.toNat ≤ 1) :
    gStep b.toNat c.toNat ((w.toNat <<< 7) % 256) =
      ((nafStep b c (w <<< 7)).1, (nafStep b c (w <<< 7)).2.1, (nafStep b c (w <<< 7)).2.2.toNat) := by
  have hw : (w.toNat <<< 7) % 256 = 128 * (w.toNat % 2) := by
    rw [Nat.shiftLeft_eq]; omega
  have hw' := shl7_mod2 w.toNat w.toNat_lt
  rw [UInt8.ofNat_toNat] at hw'
  have fin : ∀ b, b < 256 → ∀ c, c < 2 → ∀ h, h < 2 → stepCheck b c h = true := by decide +kernel
  have h := fin b.toNat b.toNat_lt c.toNat (by omega) (w.toNat % 2) (by omega)
  unfold stepCheck at h
  rw [UInt8.ofNat_toNat, UInt8.ofNat_toNat, ← hw'] at h
  simp only [Bool.and_eq_true, beq_iff_eq] at h
  rw [hw]
  obtain ⟨⟨h1, h2⟩, h3⟩ := h
  exact Prod.ext h1 (Prod.ext h2 h3)

/-- the body of the loop of `Gen.Drivers.nafGen`, copied from there; `nafGen_unfold` (a `rfl`) is what
    fails when the generated text no longer is this one -/
def gBody (k : Bytes) (st : Nat × Bytes × Bytes × Nat × Nat) (byteNum : Nat) :
    Nat × Bytes × Bytes × Nat × Nat :=
  let g := gStep (k.getD byteNum 0).toNat st.1
    (((if decide (byteNum > 0) then (k.getD (byteNum - 1) 0).toNat else 0) <<< 7) % 256)
  (g.2.2, (st.2.1.set (byteNum + 1) g.1, st.2.2.1.set (byteNum + 1) g.2.1, st.2.2.2.1, st.2.2.2.2))

theorem nafGen_unfold (k : Bytes) :
    Secp.Gen.Drivers.nafGen k =
      (let ks := stripZeros k
       let r := (List.range ks.length).reverse.foldl (gBody ks)
          (0, (List.replicate 33 (0 : UInt8), List.replicate 33 (0 : UInt8), 0, 0))
       ((r.2.1.take 0 ++ ([UInt8.ofNat r.1]).take 1 ++ r.2.1.drop (0 + 1)), r.2.2.1,
          ((1 + 256 - r.1) % 256), ((ks.length + 1) % 256))) := rfl

theorem gBody_step (ks : Bytes) (m : Nat) (hm : m ≤ ks.length) (c : UInt8) (hc : c.toNat ≤ 1)
    (Pa Na : Bytes) (a b : Nat) :
    gBody ks (c.toNat, (Pa, Na, a, b)) m =
      ((nafStep (ks.getD m 0) c (nextWord (ks.take m).reverse <<< 7)).2.2.toNat,
        (Pa.set (m + 1) (nafStep (ks.getD m 0) c (nextWord (ks.take m).reverse <<< 7)).1,
         Na.set (m + 1) (nafStep (ks.getD m 0) c (nextWord (ks.take m).reverse <<< 7)).2.1,
         a, b)) := by
  have hstep := gStep_eq (ks.getD m 0) (if m > 0 then ks.getD (m - 1) 0 else 0) c hc
  have hnw : (if decide (m > 0) then (ks.getD (m - 1) 0).toNat else 0)
      = (if m > 0 then ks.getD (m - 1) 0 else 0).toNat := by
    by_cases h : m > 0 <;> simp [h]
  unfold gBody
  simp only
  rw [hnw, hstep, nextWord_take ks m hm]

theorem splice (Pa : Bytes) (m : Nat) (hP : m + 1 < Pa.length) (p : UInt8) (r : Bytes) :
    (Pa.set (m + 1) p).take 1 ++ r ++ (Pa.set (m + 1) p).drop (m + 1)
      = Pa.take 1 ++ (r ++ [p]) ++ Pa.drop (m + 1 + 1) := by
  have h : m + 1 < (Pa.set (m + 1) p).length := by simpa using hP
  rw [List.take_set_of_le (by omega), List.drop_eq_getElem_cons h, List.getElem_set_self,
    List.drop_set_of_lt (by omega)]
  simp

/-- loop invariant: after the indices `m-1 … 0` the arrays hold the model's digits at `1 … m` -/
theorem fold_inv (ks : Bytes) : ∀ (m : Nat), m ≤ ks.length → ∀ (c : UInt8) (Pa Na : Bytes) (a b : Nat),
    c.toNat ≤ 1 → m < Pa.length → m < Na.length →
    (List.range m).reverse.foldl (gBody ks) (c.toNat, (Pa, Na, a, b)) =
      ((nafLoop (ks.take m).reverse c [] []).2.2.toNat,
        (Pa.take 1 ++ (nafLoop (ks.take m).reverse c [] []).1 ++ Pa.drop (m + 1),
         Na.take 1 ++ (nafLoop (ks.take m).reverse c [] []).2.1 ++ Na.drop (m + 1),
         a, b)) := by
  intro m
  induction m with
  | zero =>
    intro _ c Pa Na a b hc hP hN
    simp only [List.range_zero, List.reverse_nil, List.foldl_nil, List.take_zero, nafLoop_nil,
      List.append_nil, Nat.zero_add, List.take_append_drop]
  | succ m ih =>
    intro hm c Pa Na a b hc hP hN
    rw [List.range_succ, List.reverse_append, List.reverse_singleton, List.singleton_append,
      List.foldl_cons, gBody_step ks m (by omega) c hc]
    rw [ih (by omega) _ _ _ _ _ (stepOK_of_carry_le _ _ _ hc).2.1 (by simp; omega) (by simp; omega)]
    rw [take_succ_reverse ks m (by omega), nafLoop_cons, nafLoop_acc _ _ [_] [_]]
    generalize nafStep (ks.getD m 0) c (nextWord (ks.take m).reverse <<< 7) = s
    generalize nafLoop (ks.take m).reverse s.2.2 [] [] = r
    refine Prod.ext rfl (Prod.ext ?_ (Prod.ext ?_ rfl))
    · exact splice Pa m hP _ _
    · exact splice Na m hN _ _

/-- the regenerated `naf` is the model, as soon as the stripped scalar fits the 33-entry arrays -/
theorem nafGen_regenerated' (k : Bytes) (hk : (stripZeros k).length ≤ 32) :
    Secp.Gen.Drivers.nafGen k = ((naf k).pos, (naf k).neg, (naf k).start, (naf k).stop) := by
  rw [nafGen_unfold]
  simp only
  erw [fold_inv (stripZeros k) _ (Nat.le_refl _) 0 _ _ 0 0 (by decide) (by simp; omega)
    (by simp; omega)]
  unfold naf
  simp only [List.take_length]
  obtain ⟨l1, l2, l3, -, -⟩ := nafLoop_spec (stripZeros k).reverse 0 (by decide)
  rw [List.length_reverse] at l1 l2
  generalize nafLoop (stripZeros k).reverse 0 [] [] = r at l1 l2 l3 ⊢
  obtain ⟨dp, dn, c⟩ := r
  simp only at l1 l2 l3 ⊢
  refine Prod.ext ?_ (Prod.ext ?_ (Prod.ext ?_ ?_))
  · simp [l1]
    change List.drop _ (List.replicate 32 (0 : UInt8)) = _
    rw [List.drop_replicate]
  · simp [l2]
    change List.drop _ (List.replicate 32 (0 : UInt8)) = _
    rw [List.drop_replicate]
  · simp only; omega
  · simp only; omega

theorem nafGen_regenerated (k : Bytes) (hk : k.length ≤ 32) :
    Secp.Gen.Drivers.nafGen k = ((naf k).pos, (naf k).neg, (naf k).start, (naf k).stop) :=
  nafGen_regenerated' k (Nat.le_trans (stripZeros_length_le k) hk)

/-- the bound is needed: with 33 significant bytes the Go arrays are too short (the Go code would
    panic on `result.pos[33]`; the generated `List.set` past the end is a no-op, the model's lists
    grow to 34 entries) -/
theorem nafGen_bound_needed :
    Secp.Gen.Drivers.nafGen (List.replicate 33 1) ≠
      ((naf (List.replicate 33 1)).pos, (naf (List.replicate 33 1)).neg,
        (naf (List.replicate 33 1)).start, (naf (List.replicate 33 1)).stop) := by
  decide +kernel

end Secp.Proofs.DriversNaf

#print axioms Secp.Proofs.DriversNaf.nafGen_regenerated
#print axioms Secp.Proofs.DriversNaf.nafGen_regenerated'
