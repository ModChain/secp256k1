import Secp.Gen.Drivers
import Secp.Proofs.Buffers
import Secp.Proofs.Nonce
/-
  Proofs/DriversNonce — nonce.go (pass T8): the regenerated `initKey` of the Go type `hmacsha256` (the one method
  with loops) equals `Secp.Model.HmacObj.initKey`; the other methods are compared with the model in Props/C10,
  which rests on it.  The regenerated `NonceRFC6979` (key buffer, HMAC prelude, generation loop) equals the model
  of Model/Nonce.lean.
-/
-- `hmacsha256.initKey`; Props/C10 and the audit lines cite it under this namespace
namespace Secp.Proofs.DriversHmac
open Secp.Spec Secp.Model Secp.Proofs.Buffers

/-- the in-place loop on a byte list: the body of the two `(List.range 64).foldl` of `Secp.Gen.Drivers.hmacInitKey`
    with the pad taken out of the object (`fold_ipad`, `fold_opad` put it back; their statements copy the loop text) -/
def loopSet (f : UInt8 → UInt8) (n : Nat) (l : Bytes) : Bytes :=
  (List.range n).foldl (fun (l : Bytes) i => l.set i (f (l.getD i 0))) l

theorem loopSet_eq (f : UInt8 → UInt8) (l : Bytes) (n : Nat) :
    loopSet f n l = (l.take n).map f ++ l.drop n := by
  unfold loopSet
  induction n with
  | zero => simp
  | succ n ih =>
    rw [List.range_succ, List.foldl_append, ih]
    simp only [List.foldl_cons, List.foldl_nil]
    by_cases hn : n < l.length
    · -- the state is `A ++ l[n] :: B` with `A` of length `n`: the step rewrites the head of the second part
      have hA : ((l.take n).map f).length = n := by
        rw [List.length_map, List.length_take]; omega
      rw [List.drop_eq_getElem_cons hn, List.getD_eq_getElem?_getD,
        List.getElem?_append_right (Nat.le_of_eq hA), List.set_append_right _ _ (Nat.le_of_eq hA), hA,
        Nat.sub_self, List.take_succ_eq_append_getElem hn]
      simp only [List.getElem?_cons_zero, Option.getD_some, List.set_cons_zero, List.map_append, List.map_cons,
        List.map_nil, List.append_assoc, List.cons_append, List.nil_append]
    · have hn' : l.length ≤ n := by omega
      rw [List.take_of_length_le hn', List.drop_of_length_le hn',
        List.take_of_length_le (by omega : l.length ≤ n + 1),
        List.drop_of_length_le (by omega : l.length ≤ n + 1), List.append_nil,
        List.set_eq_of_length_le (by simpa using hn')]

theorem fold_set_map (f : UInt8 → UInt8) (l : Bytes) (n : Nat) (h : l.length ≤ n) :
    loopSet f n l = l.map f := by
  rw [loopSet_eq, List.take_of_length_le h, List.drop_of_length_le h, List.append_nil]

theorem fold_ipad (f : UInt8 → UInt8) (h : HmacObj) (n : Nat) :
    (List.range n).foldl (fun (h : HmacObj) i =>
        { h with ipad := h.ipad.set i (f (h.ipad.getD i 0)) }) h
      = { h with ipad := loopSet f n h.ipad } := by
  induction n with
  | zero => simp [loopSet]
  | succ n ih => simp only [loopSet] at ih ⊢; rw [List.range_succ, List.foldl_append, List.foldl_append, ih]; rfl

theorem fold_opad (f : UInt8 → UInt8) (h : HmacObj) (n : Nat) :
    (List.range n).foldl (fun (h : HmacObj) i =>
        { h with opad := h.opad.set i (f (h.opad.getD i 0)) }) h
      = { h with opad := loopSet f n h.opad } := by
  induction n with
  | zero => simp [loopSet]
  | succ n ih => simp only [loopSet] at ih ⊢; rw [List.range_succ, List.foldl_append, List.foldl_append, ih]; rfl

theorem fold_ipad54 (h : HmacObj) (n : Nat) :
    (List.range n).foldl (fun (h : HmacObj) i =>
        { h with ipad := h.ipad.set i (UInt8.ofNat ((h.ipad.getD i 0).toNat ^^^ 54)) }) h
      = { h with ipad := loopSet (· ^^^ 0x36) n h.ipad } := by
  simp only [UInt8.ofNat_xor, UInt8.ofNat_toNat]; exact fold_ipad (· ^^^ 0x36) h n

theorem fold_opad92 (h : HmacObj) (n : Nat) :
    (List.range n).foldl (fun (h : HmacObj) i =>
        { h with opad := h.opad.set i (UInt8.ofNat ((h.opad.getD i 0).toNat ^^^ 92)) }) h
      = { h with opad := loopSet (· ^^^ 0x5c) n h.opad } := by
  simp only [UInt8.ofNat_xor, UInt8.ofNat_toNat]; exact fold_opad (· ^^^ 0x5c) h n

theorem copy_gen (dst src : Bytes) :
    dst.take 0 ++ src.take (min dst.length src.length) ++ dst.drop (0 + min dst.length src.length)
      = copyInto dst src := by
  rw [copy0_eq_copyAt, copyInto_eq_copyAt]

theorem copyInto_zeros64 (dst : Bytes) (h : dst.length = 64) :
    copyInto dst Secp.Gen.Drivers.pv_zeroInitializer = zeros 64 := by
  rw [copyInto_eq_copyAt, copyAt_zero_full _ _ (by rw [h]; rfl)]; rfl

/-- the general form: pads of AT MOST 64 bytes (the in-place loops run over indices 0..63, a
    `set` beyond the end of a shorter pad is a no-op; for a pad longer than 64 bytes the
    generated code leaves the tail un-XORed while the model maps over the whole pad) -/
theorem hmacInitKey_regenerated_le (h : HmacObj) (key : Bytes)
    (hi : h.ipad.length ≤ 64) (ho : h.opad.length ≤ 64) :
    Secp.Gen.Drivers.hmacInitKey h key = h.initKey key := by
  unfold Secp.Gen.Drivers.hmacInitKey HmacObj.initKey
  -- when the generated text changes, `copy_gen`, `fold_ipad54`, `fold_opad92` stop firing without an error here
  -- (the linter reports them as unused simp arguments); what fails is the `rw` after the `simp only`
  by_cases hk : key.length > 64 <;>
    simp only [hk, decide_true, decide_false, if_true, if_false, Bool.false_eq_true, copy_gen, fold_ipad54,
      fold_opad92] <;>
    rw [fold_set_map _ _ _ (by rw [copyInto_length]; exact hi),
      fold_set_map _ _ _ (by rw [copyInto_length]; exact ho)]

theorem hmacInitKey_regenerated (h : HmacObj) (key : Bytes)
    (hi : h.ipad.length = 64) (ho : h.opad.length = 64) :
    Secp.Gen.Drivers.hmacInitKey h key = h.initKey key :=
  hmacInitKey_regenerated_le h key (Nat.le_of_eq hi) (Nat.le_of_eq ho)

theorem pads_initKey_gen (h : HmacObj) (key : Bytes)
    (hp : h.ipad.length = 64 ∧ h.opad.length = 64) :
    (Secp.Gen.Drivers.hmacInitKey h key).ipad.length = 64
      ∧ (Secp.Gen.Drivers.hmacInitKey h key).opad.length = 64 := by
  rw [hmacInitKey_regenerated h key hp.1 hp.2]
  have := pads_initKey h key
  rw [this.1, this.2]; exact hp

set_option maxRecDepth 100000 in
/-- a 65-byte pad: the generated loops XOR only bytes 0..63, the model maps over all 65 -/
example : (Secp.Gen.Drivers.hmacInitKey
      { inner := [], outer := [], ipad := zeros 65, opad := zeros 64 } []).ipad
    ≠ (HmacObj.initKey { inner := [], outer := [], ipad := zeros 65, opad := zeros 64 } []).ipad := by
  decide

set_option maxRecDepth 100000 in
/-- `ResetKey` on an object with an empty ipad: generated keeps it empty, the model has 64 bytes -/
example : (Secp.Gen.Drivers.hmacResetKey
      { inner := [], outer := [], ipad := [], opad := zeros 64 } []).ipad
    ≠ (HmacObj.resetKey { inner := [], outer := [], ipad := [], opad := zeros 64 } []).ipad := by
  decide

#print axioms hmacInitKey_regenerated_le
#print axioms hmacInitKey_regenerated
#print axioms pads_initKey
#print axioms pads_hmacNew
#print axioms pads_write
#print axioms pads_reset
#print axioms pads_resetKey
#print axioms pads_sum
#print axioms pads_initKey_gen

end Secp.Proofs.DriversHmac

namespace Secp.Proofs.DriversNonce
open Secp.Spec Secp.Model Secp.Proofs.Buffers

local notation "G.nonceRFC6979_loop" => Secp.Gen.Drivers.nonceRFC6979_loop
local notation "G.nonceRFC6979" => Secp.Gen.Drivers.nonceRFC6979

theorem nonce_loop_regenerated (privKey hash extra version : Bytes) (extraIterations : Nat)
    (keyBuf : Bytes) (offset n1 n2 : Nat) (key v k : Bytes) (hasher : HmacObj)
    (s7 s8 s9 s10 : Bytes) (generated fuel : Nat) (hg : generated + fuel < 2 ^ 32) :
    G.nonceRFC6979_loop privKey hash extra version extraIterations keyBuf offset n1 n2 key v k
        hasher s7 s8 s9 s10 generated fuel
      = (match nonceLoop fuel hasher v generated extraIterations with
          | some x => DR.ok x | none => DR.fuel) := by
  induction fuel generalizing v k hasher generated with
  | zero => rfl
  | succ fuel ih =>
    unfold Secp.Gen.Drivers.nonceRFC6979_loop nonceLoop
    simp only [Secp.Gen.Drivers.pv_singleZero]
    have hm : (generated + 1) % 4294967296 = generated + 1 := Nat.mod_eq_of_lt (by omega)
    rw [hm]
    by_cases hok : ((!(scalarSetByteSlice (((hasher.reset).write v).sum).1).2) &&
        (!((scalarSetByteSlice (((hasher.reset).write v).sum).1).1 == 0))) = true
    · have hok' : ((!(scalarSetByteSlice (((hasher.reset).write v).sum).1).2) &&
        ((scalarSetByteSlice (((hasher.reset).write v).sum).1).1 != 0)) = true := hok
      simp only [hok, hok', if_true, Bool.true_and]
      by_cases hgt : generated + 1 > extraIterations
      · simp only [hgt, decide_true, if_true]
      · simp only [hgt, decide_false, if_false, Bool.false_eq_true]
        exact ih _ _ _ _ (by omega)
    · have hok' : ¬ ((!(scalarSetByteSlice (((hasher.reset).write v).sum).1).2) &&
        ((scalarSetByteSlice (((hasher.reset).write v).sum).1).1 != 0)) = true := hok
      simp only [hok, hok', if_false, Bool.false_and, Bool.false_eq_true]
      exact ih _ _ _ _ (by omega)

/-- `if len(b) > 32 { b = b[:32] }` as generated (the explicit-bounds spelling is `Total.trunc_ok`) -/
theorem trunc32 (b : Bytes) :
    (if decide (b.length > 32) then (b.take 32).drop 0 else b) = b.take 32 := by
  by_cases h : b.length > 32
  · simp only [h, decide_true, if_true, List.drop_zero]
  · simp only [h, decide_false, if_false, Bool.false_eq_true]
    rw [List.take_of_length_le (by omega)]

/-- the statements of the generated `NonceRFC6979` that follow the assembly of `key`: the text of
    `Secp.Gen.Drivers.nonceRFC6979` from `let v := pv_oneInitializer` to its end, copied, with what precedes as
    parameters.  `nonce_keybuf` ends in `rfl` against it; when that fails, copy the tail anew -/
def nonceTail (privKey hash extra version : Bytes) (extraIterations : Nat) (keyBuf : Bytes)
    (offset n1 n2 : Nat) (key : Bytes) : DR Unit Nat :=
  let v := Secp.Gen.Drivers.pv_oneInitializer
  let k := ((Secp.Gen.Drivers.pv_zeroInitializer.take 32).drop 0)
  let t6 := hmacNew k
  let t6 := t6.write Secp.Gen.Drivers.pv_oneInitializer
  let t6 := t6.write Secp.Gen.Drivers.pv_singleZero
  let t6 := t6.write key
  let (sum7, t6) := t6.sum
  let k := sum7
  let t6 := t6.resetKey k
  let t6 := t6.write v
  let (sum8, t6) := t6.sum
  let v := sum8
  let t6 := t6.reset
  let t6 := t6.write v
  let t6 := t6.write Secp.Gen.Drivers.pv_singleOne
  let t6 := t6.write key
  let (sum9, t6) := t6.sum
  let k := sum9
  let t6 := t6.resetKey k
  let t6 := t6.write v
  let (sum10, t6) := t6.sum
  let v := sum10
  let generated := 0
  G.nonceRFC6979_loop privKey hash extra version extraIterations keyBuf offset n1 n2 key v k t6
    sum7 sum8 sum9 sum10 generated (256)

theorem nonce_keybuf (privKey hash extra version : Bytes) (extraIterations : Nat) :
    ∃ (keyBuf : Bytes) (offset n1 n2 : Nat),
      G.nonceRFC6979 privKey hash extra version extraIterations =
        nonceTail (privKey.take 32) (hash.take 32) extra version extraIterations keyBuf offset n1 n2
          (nonceKeyBuf privKey hash extra version) := by
  unfold Secp.Gen.Drivers.nonceRFC6979
  rw [trunc32 privKey, trunc32 hash]
  unfold nonceKeyBuf
  generalize hp : privKey.take 32 = p
  generalize hh : hash.take 32 = h
  have hpl : p.length ≤ 32 := hp ▸ List.length_take_le 32 _
  have hhl : h.length ≤ 32 := hh ▸ List.length_take_le 32 _
  -- names for the `let`s of `Secp.Gen.Drivers.nonceRFC6979` in the order of its text (`offN`, `nN`, `kbN`: the
  -- running offset, the copy length and the buffer of the N-th store; `off7`..`off8` are the branch without
  -- extra data), then the HMAC prelude and the model's `buf`; one more generated `let` shifts the later names.
  -- The `rfl` arguments of `store_step` check that a name sits on its `let` (a shifted name fails there), so every
  -- `store_step` comes before any `simp` that rewrites a length
  extract_lets +onlyGivenNames keyBuf p' h' off1 n1 kb1 off2 off3 n2 kb2 off4 n3 kb3 off5 n4 kb4 off6 off7 n5 kb5 off8
    v k t6a t6b t6c gen buf
  have hnp : ¬ (32 < p'.length) := by show ¬ 32 < p.length; omega
  have hnh : ¬ (32 < h'.length) := by show ¬ 32 < h.length; omega
  simp only [hnp, hnh, decide_false, Bool.false_eq_true, if_false]
  -- the buffer after each store is `filled ++ zeros`, the offset the length of `filled` (`store_step`)
  obtain ⟨e1, o2⟩ := store_step (kb := keyBuf) (kb' := kb1) (A := []) (src := p) (m := 112)
    (z := 32 - p.length) (off := off1) (n := n1) (off' := off2) rfl (Nat.zero_add _).symm (by omega) rfl rfl rfl
  obtain ⟨e2, o4⟩ := store_step (kb' := kb2) (src := h) (z := 32 - h.length) (off := off3) (n := n2)
    (off' := off4) e1 (by show off2 + _ = _; rw [o2]) (by omega) rfl rfl rfl
  by_cases he : extra.length = 32
  · obtain ⟨e3, o5⟩ := store_step (kb' := kb3) (src := extra) (z := 0) (off := off4) (n := n3)
      (off' := off5) e2 (o4.trans (Nat.add_zero _).symm) (by omega) rfl rfl rfl
    by_cases hv : version.length = 16
    · obtain ⟨e4, o6⟩ := store_step (kb' := kb4) (src := version) (z := 0) (off := off5) (n := n4)
        (off' := off6) e3 (o5.trans (Nat.add_zero _).symm) (by omega) rfl rfl rfl
      simp only [he, hv, beq_self_eq_true, if_true]
      rw [show List.drop 0 (List.take _ _) = buf ++ extra ++ version from
        (take_filled e4 o6).trans (by simp [buf, zeros, p', h'])]
      exact ⟨_, _, _, _, rfl⟩
    · simp only [he, hv, beq_self_eq_true, beq_iff_eq, if_true, if_false]
      rw [show List.drop 0 (List.take _ _) = buf ++ extra from
        (take_filled e3 o5).trans (by simp [buf, zeros, p', h'])]
      exact ⟨_, _, _, _, rfl⟩
  · by_cases hv : version.length = 16
    · -- no extra data: the version goes 32 bytes further on
      obtain ⟨e5, o8⟩ := store_step (kb' := kb5) (src := version) (z := 32) (off := off7) (n := n5)
        (off' := off8) e2 (by show off4 + 32 = _; rw [o4]) (by omega) rfl rfl rfl
      simp only [he, hv, beq_self_eq_true, beq_iff_eq, if_true, if_false]
      rw [show List.drop 0 (List.take _ _) = buf ++ zeros 32 ++ version from
        (take_filled e5 o8).trans (by simp [buf, zeros, p', h'])]
      exact ⟨_, _, _, _, rfl⟩
    · simp only [he, hv, beq_iff_eq, if_false]
      rw [show List.drop 0 (List.take _ _) = buf from
        (take_filled e2 o4).trans (by simp [buf, zeros, p', h'])]
      exact ⟨_, _, _, _, rfl⟩

theorem nonceRFC6979_regenerated (privKey hash extra version : Bytes) (extraIterations : Nat) :
    G.nonceRFC6979 privKey hash extra version extraIterations =
      (match nonceM 256 privKey hash extra version extraIterations with
        | some x => DR.ok x | none => DR.fuel) := by
  obtain ⟨kb, off, n1, n2, e⟩ := nonce_keybuf privKey hash extra version extraIterations
  rw [e]
  unfold nonceTail nonceM
  have hk : List.drop 0 (List.take 32 Secp.Gen.Drivers.pv_zeroInitializer) = zeros 32 := rfl
  simp only [hk, Secp.Gen.Drivers.pv_oneInitializer, Secp.Gen.Drivers.pv_singleZero,
    Secp.Gen.Drivers.pv_singleOne]
  exact nonce_loop_regenerated (hg := by decide) ..

end Secp.Proofs.DriversNonce
#print axioms Secp.Proofs.DriversNonce.nonce_loop_regenerated
#print axioms Secp.Proofs.DriversNonce.nonce_keybuf
#print axioms Secp.Proofs.DriversNonce.nonceRFC6979_regenerated
