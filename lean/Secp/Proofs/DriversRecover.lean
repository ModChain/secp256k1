import Secp.Gen.Drivers
import Secp.Proofs.Buffers
import Secp.Proofs.DriversConv
import Secp.Proofs.Total
/-
  Proofs/DriversRecover — signature.go recovery (pass T8): the regenerated `RecoverPublicKey` equals `recoverM`,
  `BruteforceRecoveryCode` equals `bruteforceM` (through the former), `Signature.Export` equals `exportM`.
-/
namespace Secp.Proofs.DriversRecover
open Secp.Spec Secp.Model Secp.Proofs.Bytes

theorem fmul_mod (a b : Nat) : fmul a b % P = fmul a b := Nat.mod_mod _ _

theorem decompressYJ_mod (x : Nat) (o : Bool) (y : Nat) (hy : decompressYJ x o = some y) : y % P = y := by
  unfold decompressYJ at hy
  generalize runNamed "DecompressY" [x, 0] [o] = res at hy
  rcases res with _ | ⟨r, _ | _ | _⟩
  · cases hy
  · cases hy
  · cases hy
  · injection hy with hy; rw [← hy]; exact Nat.mod_mod _ _

theorem decide_ne_zero (a : Nat) : decide (¬ a = 0) = (a != 0) := by
  by_cases h : a = 0
  · subst h; rfl
  · rw [decide_eq_true h]; exact (bne_iff_ne.mpr h).symm

theorem recoverPublicKey_regenerated (r s v : Nat) (h : Bytes) (hr : r < N) :
     Secp.Gen.Drivers.recoverPublicKey (r, s, v) h =
       (match recoverM h r s v with
        | .ok p => DR.ok p
        | .error .Panic => DR.panic
        | .error .ErrSigOverflowsPrime => DR.err SigErr.ErrSigOverflowsPrime
        | .error .ErrPointNotOnCurve => DR.err SigErr.ErrPointNotOnCurve) := by
  have hrf : Secp.Gen.Drivers.modNScalarToField r = r :=
    DriversConv.modNScalarToField_regenerated r (Nat.lt_trans hr N_lt_pow)
  have hmod := decompressYJ_mod
  unfold Secp.Gen.Drivers.recoverPublicKey recoverM hashScalar
  clear hr
  generalize Secp.Gen.Drivers.modNScalarToField = mf at hrf ⊢
  generalize decompressYJ = dec at hmod ⊢
  generalize addNC3 = add3
  generalize toAffineJ = toAff
  generalize scalarBaseMultNC = sbm
  generalize scalarMultNC = sm
  generalize ninv = ni
  generalize nmul = nm
  generalize nneg = nn
  generalize scalarSetByteSlice = ssb
  generalize P = p at hmod ⊢
  generalize N = n
  -- `generalize` alone is erased when the proof term is instantiated (beta); `as_aux_lemma` keeps the
  -- abstraction: the rest is checked by the kernel with all of the above as variables
  as_aux_lemma =>
  simp only [hrf, isInfJ, Bool.or_eq_true, beq_iff_eq, decide_eq_true_eq, bne_iff_ne, ne_eq,
    decide_ne_zero]
  by_cases hv : v = 255
  · simp only [if_pos hv]
  · simp only [if_neg hv]
    by_cases h2 : v &&& 2 = 0
    · simp only [h2, not_true_eq_false, if_false]
      cases hd : dec r (v &&& 1 != 0) with
      | none => dsimp only
      | some y =>
        dsimp only
        rw [hmod _ _ _ hd]
        split <;> rfl
    · simp only [h2, not_false_eq_true, if_true]
      by_cases hge : r ≥ p - n
      · simp only [if_pos hge]
      · simp only [if_neg hge]
        cases hd : dec (r + n) (v &&& 1 != 0) with
        | none => dsimp only
        | some y =>
          dsimp only
          rw [hmod _ _ _ hd]
          split <;> rfl

end Secp.Proofs.DriversRecover

-- `BruteforceRecoveryCode`; Props/C07 cites it under this namespace
namespace Secp.Proofs.DriversBrute

open Secp.Spec Secp.Model

/-- the test the model's `find?` runs on a code -/
def hit (h : Bytes) (r s : Nat) (Q : Nat × Nat) (v : Nat) : Bool :=
  match recoverM h r s v with | .ok p => p == Q | .error _ => false

section
-- keep the unifier from evaluating the recovery bodies when the loop equations are stated by `rfl`
attribute [local irreducible] recoverM Secp.Gen.Drivers.recoverPublicKey

theorem loop_zero (sig : Nat × Nat × Nat) (h : Bytes) (Q : Nat × Nat) (i : Nat) :
    Secp.Gen.Drivers.bruteforceRecoveryCode_loop sig h Q 0 i = .fuel := rfl

theorem loop_succ (sig : Nat × Nat × Nat) (h : Bytes) (Q : Nat × Nat) (fuel i : Nat) :
    Secp.Gen.Drivers.bruteforceRecoveryCode_loop sig h Q (fuel+1) i =
      (if decide (i < 4) then (
        match Secp.Gen.Drivers.recoverPublicKey (sig.1, sig.2.1, i) h with
        | .panic => .panic
        | .fuel => .fuel
        | .undef => .undef
        | .err _ => Secp.Gen.Drivers.bruteforceRecoveryCode_loop (sig.1, sig.2.1, i) h Q fuel ((i + 1) % 256)
        | .ok pub2 =>
            if ((Q.1 == pub2.1) && (Q.2 == pub2.2)) then .ok (true, (sig.1, sig.2.1, i))
            else Secp.Gen.Drivers.bruteforceRecoveryCode_loop (sig.1, sig.2.1, i) h Q fuel ((i + 1) % 256))
       else .ok (false, (sig.1, sig.2.1, 255))) := rfl

theorem bruteforceM_eq (h : Bytes) (r s : Nat) (Q : Nat × Nat) :
    bruteforceM h r s Q =
      if hit h r s Q 0 then (true, 0) else if hit h r s Q 1 then (true, 1)
      else if hit h r s Q 2 then (true, 2) else if hit h r s Q 3 then (true, 3) else (false, 0xff) := by
  unfold bruteforceM
  change (match [0, 1, 2, 3].find? (hit h r s Q) with
          | some v => (true, v) | none => (false, 0xff)) = _
  simp only [List.find?_cons, List.find?_nil]
  cases hit h r s Q 0 <;> cases hit h r s Q 1 <;> cases hit h r s Q 2 <;> cases hit h r s Q 3 <;> rfl

end

/-- fuses the match of `recoverPublicKey_regenerated` with the match of `loop_succ` into the model's `hit` test -/
theorem match_eq_hit {β : Type} (x : Except RecErr (Nat × Nat)) (hx : x ≠ .error .Panic) (Q : Nat × Nat) (A B P1 P2 P3 : β) :
    (match (match x with
          | .ok p => (DR.ok p : DR SigErr (Nat × Nat))
          | .error .Panic => DR.panic
          | .error .ErrSigOverflowsPrime => DR.err SigErr.ErrSigOverflowsPrime
          | .error .ErrPointNotOnCurve => DR.err SigErr.ErrPointNotOnCurve) with
      | .panic => P1
      | .fuel => P2
      | .undef => P3
      | .err _ => B
      | .ok pub2 => if ((Q.1 == pub2.1) && (Q.2 == pub2.2)) then A else B) =
    if (match x with | .ok p => p == Q | .error _ => false) then A else B := by
  cases x with
  | ok p =>
    have hb : ((Q.1 == p.1) && (Q.2 == p.2)) = (p == Q) := by
      rw [Bool.eq_iff_iff]
      simp only [Bool.and_eq_true, beq_iff_eq, Prod.ext_iff]
      constructor <;> (rintro ⟨a, b⟩; exact ⟨a.symm, b.symm⟩)
    simp only [hb]
  | error e =>
    cases e with
    | Panic => exact absurd rfl hx
    | ErrSigOverflowsPrime => simp
    | ErrPointNotOnCurve => simp

theorem loop_step
    (r s v : Nat) (h : Bytes) (Q : Nat × Nat) (hr : r < N) (fuel i : Nat) (hi : i < 4) :
    Secp.Gen.Drivers.bruteforceRecoveryCode_loop (r, s, v) h Q (fuel+1) i =
      if hit h r s Q i then DR.ok (true, (r, s, i))
      else Secp.Gen.Drivers.bruteforceRecoveryCode_loop (r, s, i) h Q fuel (i+1) := by
  have hmod : (i + 1) % 256 = i + 1 := by omega
  rw [loop_succ, DriversRecover.recoverPublicKey_regenerated r s i h hr, hmod]
  simp only [hi, decide_true, if_true, hit]
  exact match_eq_hit _ (fun hm => by have := (Total.recover_panic_iff h r s i).1 hm; omega) _ _ _ _ _ _

theorem loop_end (r s v : Nat) (h : Bytes) (Q : Nat × Nat) (fuel : Nat) :
    Secp.Gen.Drivers.bruteforceRecoveryCode_loop (r, s, v) h Q (fuel+1) 4 = DR.ok (false, (r, s, 255)) := by
  rw [loop_succ]; simp

theorem bruteforce_regenerated' (r s v : Nat) (h : Bytes) (Q : Nat × Nat) (hr : r < N) :
    Secp.Gen.Drivers.bruteforceRecoveryCode (r, s, v) h Q =
      DR.ok ((bruteforceM h r s Q).1, (r, s, (bruteforceM h r s Q).2)) := by
  unfold Secp.Gen.Drivers.bruteforceRecoveryCode
  rw [bruteforceM_eq]
  -- tools/gotr gives the `for` loop fuel 8; codes 0..3 and the exit at 4 use five of it
  rw [loop_step r s v h Q hr 7 0 (by omega)]
  rw [loop_step r s 0 h Q hr 6 1 (by omega)]
  rw [loop_step r s 1 h Q hr 5 2 (by omega)]
  rw [loop_step r s 2 h Q hr 4 3 (by omega)]
  rw [loop_end r s 3 h Q 3]
  cases hit h r s Q 0 <;> cases hit h r s Q 1 <;> cases hit h r s Q 2 <;> cases hit h r s Q 3 <;> rfl

/-- the form without `hrec` (which is `recoverPublicKey_regenerated`) is `bruteforce_regenerated'` -/
theorem bruteforce_regenerated
    (hrec : ∀ (r s v : Nat) (h : Bytes), r < N →
       Secp.Gen.Drivers.recoverPublicKey (r, s, v) h =
         (match recoverM h r s v with
          | .ok p => DR.ok p
          | .error .Panic => DR.panic
          | .error .ErrSigOverflowsPrime => DR.err SigErr.ErrSigOverflowsPrime
          | .error .ErrPointNotOnCurve => DR.err SigErr.ErrPointNotOnCurve))
    (r s v : Nat) (h : Bytes) (Q : Nat × Nat) (hr : r < N) :
    Secp.Gen.Drivers.bruteforceRecoveryCode (r, s, v) h Q =
      DR.ok ((bruteforceM h r s Q).1, (r, s, (bruteforceM h r s Q).2)) :=
  bruteforce_regenerated' r s v h Q hr

end Secp.Proofs.DriversBrute

#print axioms Secp.Proofs.DriversBrute.bruteforce_regenerated

-- `Signature.Export`; Props/C07 cites it under this namespace (`Front…`: the exported entry points of the API, as
-- opposed to the unexported functions that do the work)
namespace Secp.Proofs.FrontExport
open Secp.Spec Secp.Model

theorem exportM_fst (r s v : Nat) : (exportM r s v).1 = r := by unfold exportM; split <;> rfl

/-- what the regenerated `Export` computes for arbitrary inputs: `r` goes through a 32-byte buffer
    (so it is reduced mod 2^256); the normalised `s` is always below 2^256 and comes back unchanged. -/
theorem export_regenerated_raw (r s v : Nat) :
    Secp.Gen.Drivers.exportGen (r, s, v) =
      ((exportM r s v).1 % 2 ^ 256, (exportM r s v).2.1, (exportM r s v).2.2) := by
  unfold Secp.Gen.Drivers.exportGen exportM
  simp only [Secp.Proofs.Bytes.beNat_be32, gt_iff_lt, decide_eq_true_eq]
  have hN := Secp.Proofs.Bytes.N_lt_pow
  by_cases h : halfN < s
  · simp only [h, if_true]
    have hn : nneg s < 2 ^ 256 := Nat.lt_trans (Nat.mod_lt _ (by decide)) hN
    rw [Nat.mod_eq_of_lt hn]
  · simp only [h, if_false]
    have hs : s < 2 ^ 256 := by have := Secp.Proofs.Bytes.halfN_eq; omega
    rw [Nat.mod_eq_of_lt hs]

theorem export_regenerated (r s v : Nat) (hr : r < 2 ^ 256) :
    Secp.Gen.Drivers.exportGen (r, s, v) = exportM r s v := by
  rw [export_regenerated_raw, exportM_fst, Nat.mod_eq_of_lt hr]
  exact Prod.ext (exportM_fst r s v).symm rfl

theorem export_regenerated_iff (r s v : Nat) :
    Secp.Gen.Drivers.exportGen (r, s, v) = exportM r s v ↔ r < 2 ^ 256 := by
  constructor
  · intro h
    rw [export_regenerated_raw] at h
    have h2 := congrArg Prod.fst h
    simp only [exportM_fst] at h2
    rw [← h2]
    exact Nat.mod_lt _ (by decide)
  · exact export_regenerated r s v

/-- the form without `_hs` is `export_regenerated` -/
theorem export_regenerated_of_lt (r s v : Nat) (hr : r < 2 ^ 256) (_hs : s < N) :
    Secp.Gen.Drivers.exportGen (r, s, v) = exportM r s v := export_regenerated r s v hr

end Secp.Proofs.FrontExport
