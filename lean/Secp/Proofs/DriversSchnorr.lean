import Secp.Gen.Drivers
import Secp.Proofs.Chains
import Secp.Proofs.Buffers
/-
  Proofs/DriversSchnorr — schnorr/signature.go (pass T8): the regenerated `schnorrSign`, `schnorrVerify` and
  `Sign` with its retry loop equal the hand-written models of Model/Schnorr.lean.
-/
namespace Secp.Proofs.DriversSchnorr
open Secp.Spec Secp.Model Secp.Proofs.Chains Secp.Proofs.Buffers Secp.Proofs.Bytes

/-- the 64-byte commitment buffer of `schnorrSign`/`schnorrVerify` after the two writes.  The left side is `commitmentInput` of
    `Secp.Gen.Drivers.schnorrSign` / `schnorrVerify` with its `let`s inlined; when the translator spells the two stores
    differently, the `simp only [commitInput_eq ..]` of the two theorems below stops firing: copy the text anew -/
theorem commitInput_eq (r : Nat) (h : Bytes) (hl : h.length = 32) :
    (((List.replicate 64 (0 : UInt8)).take 0 ++ (be32 r).take 32 ++
        (List.replicate 64 (0 : UInt8)).drop (0 + 32)).take 32 ++
      h.take (min (((List.replicate 64 (0 : UInt8)).take 0 ++ (be32 r).take 32 ++
        (List.replicate 64 (0 : UInt8)).drop (0 + 32)).drop 32).length h.length) ++
      ((List.replicate 64 (0 : UInt8)).take 0 ++ (be32 r).take 32 ++
        (List.replicate 64 (0 : UInt8)).drop (0 + 32)).drop
        (32 + min (((List.replicate 64 (0 : UInt8)).take 0 ++ (be32 r).take 32 ++
        (List.replicate 64 (0 : UInt8)).drop (0 + 32)).drop 32).length h.length)) = be32 r ++ h := by
  rw [write_zeros (be32 r) 64 0 32 (be32_length r).symm (by omega)]
  simp only [List.replicate_zero, List.nil_append]
  rw [write_tail (be32 r) h 32 32 _ (be32_length r).symm (by simp [hl, be32_length]) (by simp [hl, be32_length])]
  simp [hl, be32_length]

theorem schnorrSign_regenerated (B : Bytes → Bytes) (d k : Nat) (h : Bytes) (hl : h.length = 32) :
    Secp.Gen.Drivers.schnorrSign B d k h =
      (match schnorrSignM B d k h with | .ok x => DR.ok x | .error e => DR.err e) := by
  have hx : (toAffineJ (scalarBaseMultNC k)).1 % P = (toAffineJ (scalarBaseMultNC k)).1 :=
    Nat.mod_eq_of_lt (toAffineJ_lt _).1
  unfold Secp.Gen.Drivers.schnorrSign schnorrSignM commitScalar
  simp only [commitInput_eq _ h hl, hx]
  cases (scalarSetByteSlice (B (be32 (toAffineJ (scalarBaseMultNC k)).1 ++ h))).2 <;>
    by_cases hy : (toAffineJ (scalarBaseMultNC k)).2.1 % 2 = 1 <;> simp [hy]


theorem schnorrVerify_regenerated (B : Bytes → Bytes) (r s : Nat) (h : Bytes) (Q : Nat × Nat) :
    Secp.Gen.Drivers.schnorrVerify B (r, s) h Q =
      (match schnorrVerifyM B r s h Q with | none => DR.ok () | some e => DR.err e) := by
  unfold Secp.Gen.Drivers.schnorrVerify schnorrVerifyM commitScalar
  by_cases hl : h.length = 32
  swap
  · simp [hl]
  simp only [commitInput_eq _ h hl]
  cases hc : isOnCurveM Q.1 Q.2
  · simp [hl]
  cases (scalarSetByteSlice (B (be32 r ++ h))).2
  swap
  · simp [hl]
  simp only [hl]
  generalize hR : addNC3 (scalarBaseMultNC s)
    (scalarMultNC (scalarSetByteSlice (B (be32 r ++ h))).1 (Q.1, Q.2, 1)) = R
  have hinf : isInfJ R = (((R.1 == 0) && (R.2.1 == 0)) || (R.2.2 == 0)) := rfl
  cases hi : isInfJ R <;> rw [hinf] at hi
  · by_cases hy : (toAffineJ R).2.1 % 2 = 1
    · simp [hi, hy]
    · by_cases hr : r = (toAffineJ R).1 <;> simp [hi, hy, hr]
  · simp [hi]

theorem pv_extra_eq : Secp.Gen.Drivers.pv_rfc6979ExtraDataV0 = rfc6979ExtraDataV0 := by decide

theorem schnorrSign_loop_regenerated (B : Bytes → Bytes) (d : Nat) (h : Bytes) (hl : h.length = 32)
    (fuel iter : Nat) (hi : iter + fuel < 2^32) :
    Secp.Gen.Drivers.schnorrSignRFC6979_loop B d h (be32 d) fuel iter =
      (match schnorrSignLoop B d h fuel iter with
        | .ok x => DR.ok x | .error .NoNonce => DR.fuel | .error e => DR.err e) := by
  induction fuel generalizing iter with
  | zero => rfl
  | succ fuel ih =>
    unfold Secp.Gen.Drivers.schnorrSignRFC6979_loop schnorrSignLoop
    rw [pv_extra_eq]
    cases nonceM 256 (be32 d) h rfc6979ExtraDataV0 [] iter with
    | none => rfl
    | some k =>
      simp only [schnorrSign_regenerated B d k h hl]
      have hm : (iter + 1) % 4294967296 = iter + 1 := Nat.mod_eq_of_lt (by omega)
      cases schnorrSignM B d k h with
      | ok sig => rfl
      | error e =>
        simp only [hm]
        exact ih (iter + 1) (by omega)

theorem schnorrSignRFC6979_regenerated (B : Bytes → Bytes) (d : Nat) (h : Bytes) :
    Secp.Gen.Drivers.schnorrSignRFC6979 B d h =
      (match Secp.Model.schnorrSign B d h with
        | .ok x => DR.ok x | .error .NoNonce => DR.fuel | .error e => DR.err e) := by
  unfold Secp.Gen.Drivers.schnorrSignRFC6979 Secp.Model.schnorrSign
  by_cases hl : h.length = 32
  swap
  · simp [hl]
  by_cases hd : d = 0
  · simp [hl, hd]
  simp only [write_full _ _ (Bytes.be32_length d), hl, hd]
  simpa [hd] using schnorrSign_loop_regenerated B d h hl 16 0 (by norm_num)

-- `_hx`: the three statements above under a range hypothesis on `ToAffine`'s x that `Chains.toAffineJ_lt` provides

theorem schnorrSign_regenerated_hx (B : Bytes → Bytes) (d k : Nat) (h : Bytes) (hl : h.length = 32)
    (_hx : (toAffineJ (scalarBaseMultNC k)).1 < P) :
    Secp.Gen.Drivers.schnorrSign B d k h =
      (match schnorrSignM B d k h with | .ok x => DR.ok x | .error e => DR.err e) :=
  schnorrSign_regenerated B d k h hl

theorem schnorrSign_loop_regenerated_hx (B : Bytes → Bytes) (d : Nat) (h : Bytes) (hl : h.length = 32)
    (fuel iter : Nat) (hi : iter + fuel < 2^32)
    (_hx : ∀ k, (toAffineJ (scalarBaseMultNC k)).1 < P) :
    Secp.Gen.Drivers.schnorrSignRFC6979_loop B d h (be32 d) fuel iter =
      (match schnorrSignLoop B d h fuel iter with
        | .ok x => DR.ok x | .error .NoNonce => DR.fuel | .error e => DR.err e) :=
  schnorrSign_loop_regenerated B d h hl fuel iter hi

theorem schnorrSignRFC6979_regenerated_hx (B : Bytes → Bytes) (d : Nat) (h : Bytes)
    (_hx : ∀ k, (toAffineJ (scalarBaseMultNC k)).1 < P) :
    Secp.Gen.Drivers.schnorrSignRFC6979 B d h =
      (match Secp.Model.schnorrSign B d h with
        | .ok x => DR.ok x | .error .NoNonce => DR.fuel | .error e => DR.err e) :=
  schnorrSignRFC6979_regenerated B d h

end Secp.Proofs.DriversSchnorr

#print axioms Secp.Proofs.DriversSchnorr.schnorrSign_regenerated
#print axioms Secp.Proofs.DriversSchnorr.schnorrVerify_regenerated
#print axioms Secp.Proofs.DriversSchnorr.schnorrSign_loop_regenerated
#print axioms Secp.Proofs.DriversSchnorr.schnorrSignRFC6979_regenerated
