import Secp.Gen.Drivers
import Secp.Proofs.Chains
import Secp.Props.C10
import Secp.Proofs.Buffers
import Secp.Proofs.DriversConv
/-
  Proofs/DriversSign — signature.go signing (pass T8): the regenerated `fieldToModNScalar`, `modNScalarToField`,
  `sign`, `signRFC6979` and `PrivateKey.PubKey` equal the hand-written models `signM`, `signRFC6979Aux`,
  `signRFC6979M` of Model/Ecdsa.
-/
namespace Secp.Proofs.DriversSign
open Secp.Spec Secp.Model Secp.Proofs.Buffers Secp.Proofs.Bytes

theorem fieldToModNScalar_eq (v : Nat) (hv : v < 2^256) :
    Secp.Gen.Drivers.fieldToModNScalar v = (if v ≥ N then v - N else v, if v ≥ N then 1 else 0) := by
  unfold Secp.Gen.Drivers.fieldToModNScalar
  simp only [write_full _ _ (Bytes.be32_length v), scalarSetByteSlice_be32 hv, decide_eq_true_eq]

theorem modNScalarToField_eq (v : Nat) (hv : v < 2^256) : Secp.Gen.Drivers.modNScalarToField v = v :=
  DriversConv.modNScalarToField_regenerated v hv

theorem sign_regenerated (d k : Nat) (h : Bytes) :
    Secp.Gen.Drivers.sign d k h = (match signM d k h with | some x => DR.ok x | none => DR.err ()) := by
  -- the x coordinate delivered by `ToAffine` is canonical, so `fieldToModNScalar` sees a value < 2^256
  have hx : (toAffineJ (scalarBaseMultNC k)).1 < 2 ^ 256 := lt_trans (Chains.toAffineJ_lt _).1 P_lt_pow
  unfold Secp.Gen.Drivers.sign signM
  simp only [fieldToModNScalar_eq _ hx, hashScalar, beq_iff_eq, decide_eq_true_eq]
  generalize (toAffineJ (scalarBaseMultNC k)).1 = x
  generalize (toAffineJ (scalarBaseMultNC k)).2.1 = y
  -- the recovery code: `byte(overflow << 1) | byte(y & 1)`
  have hy : y % 2 % 256 = y % 2 := Nat.mod_eq_of_lt (by omega)
  by_cases ho : x ≥ N <;> simp only [ho, if_true, if_false, hy, Nat.reduceShiftLeft, Nat.reduceMod] <;>
    split_ifs <;> rfl

section
-- keep the unifier from evaluating the signing bodies when unfolding the retry loops
attribute [local irreducible] signM Secp.Gen.Drivers.sign

theorem loop_zero (d : Nat) (h pk : Bytes) (iter : Nat) :
    Secp.Gen.Drivers.signRFC6979_loop d h pk 0 iter = .fuel := rfl

theorem loop_succ (d : Nat) (h pk : Bytes) (n iter : Nat) :
    Secp.Gen.Drivers.signRFC6979_loop d h pk (n+1) iter =
      (match nonceM 256 pk h [] [] iter with
       | none => .fuel
       | some k =>
         match Secp.Gen.Drivers.sign d k h with
         | .panic => .panic
         | .fuel => .fuel
         | .undef => .undef
         | .err _ => Secp.Gen.Drivers.signRFC6979_loop d h pk n ((iter + 1) % 4294967296)
         | .ok sig => .ok sig) := rfl

theorem signRFC6979Aux_zero (H : HmacFn) (d : Nat) (h : Bytes) (iter : Nat) : signRFC6979Aux H d h 0 iter = none := rfl

theorem signRFC6979Aux_succ (H : HmacFn) (d : Nat) (h : Bytes) (n iter : Nat) :
    signRFC6979Aux H d h (n+1) iter =
    (match nonceRFC6979 H 256 (be32 d) h [] [] iter with
    | none => none
    | some k =>
      match signM d k h with
      | some sig => some sig
      | none => signRFC6979Aux H d h n (iter + 1)) := rfl
end

theorem signRFC6979_loop_regenerated (d : Nat) (h : Bytes) (fuel iter : Nat) (hi : iter + fuel < 2^32) :
    Secp.Gen.Drivers.signRFC6979_loop d h (be32 d) fuel iter =
      (match signRFC6979Aux hmacSha256 d h fuel iter with | some x => DR.ok x | none => DR.fuel) := by
  have hi' : iter + fuel < 4294967296 := by norm_num at hi; exact hi
  clear hi
  induction fuel generalizing iter with
  | zero => rw [loop_zero, signRFC6979Aux_zero]
  | succ n ih =>
    rw [loop_succ, signRFC6979Aux_succ, Secp.Props.C10.nonce_spec]
    cases nonceRFC6979 hmacSha256 256 (be32 d) h [] [] iter with
    | none => rfl
    | some k =>
      simp only [sign_regenerated]
      cases signM d k h with
      | some sig => rfl
      | none =>
        simp only []
        rw [Nat.mod_eq_of_lt (by omega), ih (iter + 1) (by omega)]

theorem signRFC6979_regenerated (d : Nat) (h : Bytes) :
    Secp.Gen.Drivers.signRFC6979 d h = (match signRFC6979M d h with | some x => DR.ok x | none => DR.fuel) := by
  unfold Secp.Gen.Drivers.signRFC6979 signRFC6979M
  simp only [write_full _ _ (Bytes.be32_length d)]
  exact signRFC6979_loop_regenerated d h 16 0 (by norm_num)

-- `_hx`: the three statements above under a range hypothesis on `ToAffine`'s x that `Chains.toAffineJ_lt` provides

theorem sign_regenerated_hx (d k : Nat) (h : Bytes) (_hx : (toAffineJ (scalarBaseMultNC k)).1 < 2^256) :
    Secp.Gen.Drivers.sign d k h = (match signM d k h with | some x => DR.ok x | none => DR.err ()) :=
  sign_regenerated d k h

theorem signRFC6979_loop_regenerated_hx (d : Nat) (h : Bytes) (fuel iter : Nat) (hi : iter + fuel < 2^32)
    (_hx : ∀ k, (toAffineJ (scalarBaseMultNC k)).1 < 2^256) :
    Secp.Gen.Drivers.signRFC6979_loop d h (be32 d) fuel iter =
      (match signRFC6979Aux hmacSha256 d h fuel iter with | some x => DR.ok x | none => DR.fuel) :=
  signRFC6979_loop_regenerated d h fuel iter hi

theorem signRFC6979_regenerated_hx (d : Nat) (h : Bytes) (_hx : ∀ k, (toAffineJ (scalarBaseMultNC k)).1 < 2^256) :
    Secp.Gen.Drivers.signRFC6979 d h = (match signRFC6979M d h with | some x => DR.ok x | none => DR.fuel) :=
  signRFC6979_regenerated d h

end Secp.Proofs.DriversSign

#print axioms Secp.Proofs.DriversSign.fieldToModNScalar_eq
#print axioms Secp.Proofs.DriversSign.modNScalarToField_eq
#print axioms Secp.Proofs.DriversSign.sign_regenerated
#print axioms Secp.Proofs.DriversSign.signRFC6979_loop_regenerated
#print axioms Secp.Proofs.DriversSign.signRFC6979_regenerated

-- `PrivateKey.PubKey`; Props/C01 cites it under this namespace
namespace Secp.Proofs.DriversPubKeyOf
open Secp.Model

theorem pubKey_regenerated (d : Nat) :
    Secp.Gen.Drivers.pubKey d
      = ((toAffineJ (scalarBaseMultNC d)).1, (toAffineJ (scalarBaseMultNC d)).2.1) := by
  simp only [Secp.Gen.Drivers.pubKey]

end Secp.Proofs.DriversPubKeyOf
