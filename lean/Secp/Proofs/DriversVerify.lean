import Secp.Gen.Drivers
import Secp.Proofs.Buffers
import Secp.Proofs.DriversConv
/-
  Proofs/DriversVerify — signature.go (pass T8): the regenerated `Signature.Verify` equals `verifyM`.
-/
namespace Secp.Proofs.DriversVerify
open Secp.Spec Secp.Model Secp.Proofs.Bytes

theorem verify_regenerated (r s v : Nat) (h : Bytes) (Q : Nat × Nat) (hr : r < N) :
    Secp.Gen.Drivers.verify (r, s, v) h Q = verifyM h Q r s := by
  have hrf : Secp.Gen.Drivers.modNScalarToField r = r :=
    DriversConv.modNScalarToField_regenerated r (Nat.lt_trans hr N_lt_pow)
  have hfm : ∀ a b, fmul a b % P = fmul a b := fun _ _ => Nat.mod_mod _ _
  unfold Secp.Gen.Drivers.verify verifyM hashScalar
  clear hr
  -- make every heavy constant a variable and check the rest as a separate lemma, so that the
  -- kernel never evaluates the formula interpreter / scalar arithmetic on symbolic input
  generalize Secp.Gen.Drivers.modNScalarToField = mf at hrf ⊢
  generalize addNC3 = add3
  generalize scalarBaseMultNC = sbm
  generalize scalarMultNC = sm
  generalize ninv = ni
  generalize nmul = nm
  generalize fmul = fm at hfm ⊢
  generalize fsq = fs
  generalize scalarSetByteSlice = ssb
  generalize P = p at hfm ⊢
  generalize N = n
  as_aux_lemma =>
  simp only [hrf, hfm, isInfJ, Bool.or_eq_true, beq_iff_eq, decide_eq_true_eq]

end Secp.Proofs.DriversVerify
