import Secp.Proofs.Buffers
/-
  Proofs/DriversWrapField — two facts of Proofs/Buffers.lean about 32-byte loads (`beNat_leftPad_take`,
  `scalarSetByteSlice_minBytes`) restated.  The regenerated `FieldVal.SetByteSlice` wrapper
  (`Secp.Gen.Drivers.fieldSetByteSliceGen`) is compared with the model in Props/C05 (`setByteSlice_wrapper`),
  through `Buffers.trunc_eq` and `Buffers.pad_eq`.
-/
namespace Secp.Proofs.DriversWrapField
open Secp.Spec Secp.Model

private theorem beNat_pad_take (c : Bytes) (hc : c.length ≤ 32) :
    beNat ((List.replicate (32 - c.length) (0 : UInt8) ++ c).take 32) = beNat c :=
  Buffers.beNat_leftPad_take c hc

private theorem setByteSlice_minBytes {x : Nat} (hx : x < N) :
    (scalarSetByteSlice (minBytes x)).1 = x :=
  Buffers.scalarSetByteSlice_minBytes hx

end Secp.Proofs.DriversWrapField
