import Secp.Model.PointSpec
import Secp.Proofs.SpecGroup
import Secp.Proofs.SpecOrder
/-
  Proofs/Ecdh — lemmas behind Props/C14 (ECDH); the group facts are those of `Proofs/SpecGroup`
  (Mathlib's group law) and `Proofs/SpecOrder` (`order_G`).
-/
namespace Secp.Proofs.Ecdh
open Secp.Spec Secp.Proofs.SpecGroup

theorem nsmul_G_ne_zero (a : Nat) (h : ¬ N ∣ a) : a • toE G ≠ 0 := by
  intro h0
  have hd := addOrderOf_dvd_iff_nsmul_eq_zero.2 h0
  rw [order_G] at hd
  exact h hd

theorem smul_G_finite (a : Nat) (h : ¬ N ∣ a) : ∃ x y, smul a G = some (x, y) ∧ OnCurve x y := by
  have hv := valid_smul a valid_G
  cases hs : smul a G with
  | none =>
    exfalso
    apply nsmul_G_ne_zero a h
    rw [← toE_smul a valid_G, hs, toE_none]
  | some p =>
    obtain ⟨x, y⟩ := p
    rw [hs] at hv
    exact ⟨x, y, rfl, hv⟩

theorem pubkey_finite (a : Nat) (ha0 : 0 < a) (ha : a < N) :
    ∃ x y, smul a G = some (x, y) ∧ OnCurve x y :=
  smul_G_finite a (Nat.not_dvd_of_pos_of_lt ha0 ha)

theorem smul_G_ne_none {k : Nat} (h0 : 0 < k) (hN : k < N) : smul k G ≠ none := by
  obtain ⟨x, y, h, -⟩ := pubkey_finite k h0 hN
  rw [h]; exact Option.some_ne_none _

theorem smul_smul_G (a b : Nat) : smul a (smul b G) = smul ((a * b) % N) G := by
  rw [smul_mod_N_G, smul_smul' valid_G]

end Secp.Proofs.Ecdh
