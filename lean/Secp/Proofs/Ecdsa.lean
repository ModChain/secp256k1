import Secp.Model.PointSpec
import Secp.Proofs.PubKey
import Secp.Proofs.Nonce
import Secp.Proofs.JacTriple
import Mathlib.Tactic.SplitIfs
import Mathlib.Tactic.IntervalCases
import Mathlib.Tactic.FieldSimp
/-
  Proofs/Ecdsa — lemmas behind Props/C01 (signing), C02 (verification), C07 (recovery).
  The point-arithmetic layer enters only through `PointSpec`.
-/
namespace Secp.Proofs.Ecdsa
open Secp.Spec Secp.Model

theorem halfN_lt : halfN < N := by decide +kernel

theorem nmul_comm (a b : Nat) : nmul a b = nmul b a := by
  unfold nmul; rw [Nat.mul_comm]

theorem nadd_comm (a b : Nat) : nadd a b = nadd b a := by
  unfold nadd; rw [Nat.add_comm]

theorem nneg_eq {s : Nat} (h0 : 0 < s) (hs : s < N) : nneg s = N - s := by
  unfold nneg
  rw [Nat.mod_eq_of_lt hs, Nat.mod_eq_of_lt (by omega)]

theorem hashScalar_eq (h : Bytes) : hashScalar h = hashToE h := Buffers.scalarSetByteSlice_fst h

theorem fmul_fsq_eq_iff (a X Z : Nat) (hX : X < P) (hZ : Z < P) (hZ0 : Z ≠ 0) :
    fmul a (fsq Z) = X ↔ a % P = fmul X (fsq (finv Z)) := by
  have hz : ((Z : Nat) : ZMod P) ≠ 0 := fun h => hZ0 ((cast_eq_zero_iff_of_lt hZ).1 h)
  have key : ((fmul a (fsq Z) : Nat) : ZMod P) = (X : ZMod P) ↔
      ((a : Nat) : ZMod P) = ((fmul X (fsq (finv Z)) : Nat) : ZMod P) := by
    rw [fmul_cast, fsq_cast, fmul_cast, fsq_cast, finv_cast]
    constructor
    · intro h
      rw [← h]
      field_simp
    · intro h
      rw [h]
      field_simp
  constructor
  · intro h
    have := key.1 (by rw [h])
    rw [← mod_P_eq_iff, Nat.mod_eq_of_lt (fmul_lt _ _)] at this
    exact this
  · intro h
    apply eq_of_cast_eq_P (fmul_lt _ _) hX
    apply key.2
    rw [← mod_P_eq_iff, Nat.mod_eq_of_lt (fmul_lt _ _)]
    exact h

theorem mod_N_eq_iff {x r : Nat} (hx : x < P) (hr : r < N) : x % N = r ↔ x = r ∨ (r < P - N ∧ x = r + N) := by
  have hNP := N_lt_P
  have hP2N := P_lt_two_N
  rw [Bytes.mod_N_of_lt (by omega)]
  split <;> omega

theorem jacobian_compare (X Z r : Nat) (hX : X < P) (hZ : Z < P) (hZ0 : Z ≠ 0) (hr : r < N) :
    ((fmul r (fsq Z) == X) || (decide (r < P - N) && (fmul (r + N) (fsq Z) == X))) =
      (fmul X (fsq (finv Z)) % N == r) := by
  have hx : fmul X (fsq (finv Z)) < P := fmul_lt _ _
  have e1 := fmul_fsq_eq_iff r X Z hX hZ hZ0
  have e2 := fmul_fsq_eq_iff (r + N) X Z hX hZ hZ0
  generalize fmul X (fsq (finv Z)) = x at *
  have hNP := N_lt_P
  rw [Nat.mod_eq_of_lt (by omega)] at e1
  rw [Bool.eq_iff_iff]
  simp only [Bool.or_eq_true, Bool.and_eq_true, beq_iff_eq, decide_eq_true_eq]
  rw [e1, mod_N_eq_iff hx hr]
  refine or_congr eq_comm (and_congr_right fun h => ?_)
  rw [e2, Nat.mod_eq_of_lt (by omega)]
  exact eq_comm

/-- `u1·G + u2·Q`, the double multiplication of Verify, of Schnorr verification and of key recovery -/
theorem lincomb (hp : PointSpec) {u1 u2 x y : Nat} (h1 : u1 < N) (h2 : u2 < N) (hon : OnCurve x y) :
    Jac.WF (addNC3 (scalarBaseMultNC u1) (scalarMultNC u2 (x, y, 1))) ∧
      Jac.toPt (addNC3 (scalarBaseMultNC u1) (scalarMultNC u2 (x, y, 1))) =
        Pt.add (smul u1 G) (smul u2 (some (x, y))) := by
  obtain ⟨w1, t1⟩ := hp.sbmul u1 h1
  obtain ⟨w2, t2⟩ := hp.smulA u2 x y h2 hon
  obtain ⟨w3, t3⟩ := hp.add3 _ _ w1 w2
  exact ⟨w3, by rw [t3, t1, t2]⟩

theorem verify_tail (Q : Jac) (hq : Jac.WF Q) (r : Nat) (hr : r < N) :
    (if isInfJ Q then false else
      if fmul r (fsq Q.2.2) == Q.1 then true else
      if r ≥ P - N then false else
      fmul (r + N) (fsq Q.2.2) == Q.1) =
    (match Jac.toPt Q with
     | none => false
     | some (x, _) => x % N == r) := by
  cases hi : isInfJ Q with
  | true =>
    rw [PointOps.toPt_of_inf hi]
    rfl
  | false =>
    rw [PointOps.toPt_of_not_inf Q hq hi]
    simp only [Bool.false_eq_true, if_false]
    rw [← jacobian_compare Q.1 Q.2.2 r hq.1 hq.2.2.1 (PointOps.fin_iff.1 hi).2 hr]
    by_cases h1 : fmul r (fsq Q.2.2) = Q.1
    · simp [h1]
    · by_cases h2 : r < P - N
      · have h2' : ¬ r ≥ P - N := by omega
        simp [h1, h2, h2']
      · have h2' : r ≥ P - N := by omega
        simp [h1, h2, h2']

theorem code_or (c : Prop) [Decidable c] (y : Nat) :
    ((if c then 2 else 0) ||| (y % 2)) = (if c then 2 else 0) + y % 2 := by
  rcases Nat.mod_two_eq_zero_or_one y with h | h <;> rw [h] <;> split_ifs <;> rfl

/-- the body of `sign` once the affine nonce point is known -/
def signBody (x y d k : Nat) (h : Bytes) : Option (Nat × Nat × Nat) :=
  let overflow := x ≥ N
  let r := if overflow then x - N else x
  if r = 0 then none else
  let code := (if overflow then 2 else 0) ||| (y % 2)
  let e := hashScalar h
  let kinv := ninv k
  let s := nmul (nadd (nmul d r) e) kinv
  if s = 0 then none else
  if s > halfN then some (r, nneg s, code ^^^ 1) else some (r, s, code)

theorem signM_eq_body (d k : Nat) (h : Bytes) :
    signM d k h = signBody (toAffineJ (scalarBaseMultNC k)).1 (toAffineJ (scalarBaseMultNC k)).2.1 d k h := rfl

theorem signBody_eq_spec (x y d k : Nat) (h : Bytes) (hx : x < P) (hR : smul k G = some (x, y)) :
    signBody x y d k h = ecdsaSignWithNonce d k h := by
  have hP2N := P_lt_two_N
  have hr : (if x ≥ N then x - N else x) = x % N := (Bytes.mod_N_of_lt (by omega)).symm
  unfold signBody ecdsaSignWithNonce ecdsaRaw
  simp only [hR, Pt.x, hr, recCode, Pt.y, code_or, hashScalar_eq]
  have hs : nmul (nadd (nmul d (x % N)) (hashToE h)) (ninv k) =
      nmul (ninv k) (nadd (hashToE h) (nmul (x % N) d)) := by
    rw [nmul_comm, nadd_comm, nmul_comm d]
  rw [hs]
  have hsN : nmul (ninv k) (nadd (hashToE h) (nmul (x % N) d)) < N := nmul_lt _ _
  generalize nmul (ninv k) (nadd (hashToE h) (nmul (x % N) d)) = s' at hsN ⊢
  by_cases h1 : x % N = 0
  · simp only [h1, if_true]
  · simp only [h1, if_false]
    by_cases h2 : s' = 0
    · simp only [h2, if_true]
    · simp only [h2, if_false]
      by_cases h3 : s' > halfN
      · simp only [h3, if_true, nneg_eq (Nat.pos_of_ne_zero h2) hsN]
        rfl
      · simp only [h3, if_false]
        rfl

theorem nonce_point (hp : PointSpec) (k : Nat) (hk : k < N) (hfin : smul k G ≠ none) :
    ∃ x y, x < P ∧ y < P ∧ smul k G = some (x, y) ∧ toAffineJ (scalarBaseMultNC k) = (x, y, 1) := by
  obtain ⟨w, t⟩ := hp.sbmul k hk
  cases hR : smul k G with
  | none => exact absurd hR hfin
  | some p =>
    obtain ⟨x, y⟩ := p
    rw [hR] at t
    obtain ⟨hx, hy⟩ := PointOps.toPt_some_lt t
    exact ⟨x, y, hx, hy, rfl, hp.toAffine _ x y w t⟩

/-- `hfin` (k·G is finite, which holds for 0 < k < N by the group-order theorem) is needed because
    `PointSpec` does not determine `ToAffine` of the identity -/
theorem signM_eq (hp : PointSpec) (d k : Nat) (h : Bytes) (hk : k < N) (hfin : smul k G ≠ none) :
    signM d k h = ecdsaSignWithNonce d k h := by
  obtain ⟨x, y, hx, -, hR, hA⟩ := nonce_point hp k hk hfin
  rw [signM_eq_body, hA]
  exact signBody_eq_spec x y d k h hx hR

theorem sign_eq_spec (hp : PointSpec) (d k : Nat) (h : Bytes) (_hd : d < N) (_hk0 : 0 < k) (hk : k < N)
    (hfin : smul k G ≠ none) :
    signM d k h = ecdsaSignWithNonce d k h :=
  signM_eq hp d k h hk hfin

/-- the retry loop is an abstract `model` with its two equations, not `signRFC6979Aux` itself: `C01.signRFC6979_eq_spec`
    gives the equations by `rfl` with `signM` irreducible, which an `unfold signRFC6979Aux` here would not survive -/
theorem signAux_eq_spec (hp : PointSpec) (H : HmacFn) (cand : Nat) (d : Nat) (h : Bytes)
    (hfin : ∀ k, 0 < k → k < N → smul k G ≠ none) (fuel iter : Nat)
    (model : Nat → Nat → Option (Nat × Nat × Nat))
    (hm0 : ∀ iter, model 0 iter = none)
    (hm1 : ∀ f iter, model (f + 1) iter =
      match nonceRFC6979 H cand (be32 d) h [] [] iter with
      | none => none
      | some k =>
        match signM d k h with
        | some sig => some sig
        | none => model f (iter + 1)) :
    model fuel iter = ecdsaSignAuxGen H cand d h fuel iter := by
  induction fuel generalizing iter with
  | zero => rw [hm0]; rfl
  | succ f ih =>
    rw [hm1]
    unfold ecdsaSignAuxGen
    cases hk : nonceRFC6979 H cand (be32 d) h [] [] iter with
    | none => rfl
    | some k =>
      obtain ⟨hk0, hkN⟩ := Nonce.drbgNonce_range _ _ _ _ _ hk
      simp only
      rw [signM_eq hp d k h hkN (hfin k hk0 hkN), ih]
      cases ecdsaSignWithNonce d k h <;> rfl

theorem xor_one_lt_four (c : Nat) (h : c < 4) : c ^^^ 1 < 4 := by
  interval_cases c <;> decide

theorem code_lt_four (c : Prop) [Decidable c] (y : Nat) : ((if c then 2 else 0) ||| (y % 2)) < 4 := by
  rw [code_or]
  have := Nat.mod_lt y (by decide : 0 < 2)
  split_ifs <;> omega

theorem signBody_props (x y d k : Nat) (h : Bytes) (r s v : Nat)
    (hs : signBody x y d k h = some (r, s, v)) :
    0 < r ∧ (x < P → r < N) ∧ 0 < s ∧ s ≤ halfN ∧ v < 4 := by
  have hP2N := P_lt_two_N
  have hhalf := Bytes.halfN_eq
  unfold signBody at hs
  simp only at hs
  have hsN : nmul (nadd (nmul d (if x ≥ N then x - N else x)) (hashScalar h)) (ninv k) < N := nmul_lt _ _
  generalize nmul (nadd (nmul d (if x ≥ N then x - N else x)) (hashScalar h)) (ninv k) = s' at hs hsN
  have hc := code_lt_four (x ≥ N) y
  generalize ((if x ≥ N then 2 else 0) ||| (y % 2)) = c at hs hc
  have hr : x < P → (if x ≥ N then x - N else x) < N := by
    intro hx; split_ifs <;> omega
  generalize (if x ≥ N then x - N else x) = r0 at hs hr
  split_ifs at hs with h1 h2 h3
  · simp only [Option.some.injEq, Prod.mk.injEq] at hs
    obtain ⟨rfl, e2, e3⟩ := hs
    rw [nneg_eq (Nat.pos_of_ne_zero h2) hsN] at e2
    refine ⟨Nat.pos_of_ne_zero h1, hr, by omega, by omega, ?_⟩
    rw [← e3]; exact xor_one_lt_four c hc
  · simp only [Option.some.injEq, Prod.mk.injEq] at hs
    obtain ⟨rfl, e2, e3⟩ := hs
    refine ⟨Nat.pos_of_ne_zero h1, hr, by omega, by omega, ?_⟩
    rw [← e3]; exact hc

theorem sign_low_s (hp : PointSpec) (d k : Nat) (h : Bytes) (r s v : Nat) (hk : k < N)
    (hfin : smul k G ≠ none) (hs : signM d k h = some (r, s, v)) :
    0 < r ∧ r < N ∧ 0 < s ∧ s ≤ halfN ∧ v < 4 := by
  obtain ⟨x, y, hx, -, -, hA⟩ := nonce_point hp k hk hfin
  rw [signM_eq_body, hA] at hs
  obtain ⟨a, a', b, c, e⟩ := signBody_props x y d k h r s v hs
  exact ⟨a, a' hx, b, c, e⟩

theorem bit2_iff (v : Nat) (hv : v < 4) : (v &&& 2 ≠ 0) ↔ v / 2 % 2 = 1 := by
  interval_cases v <;> decide

theorem bit1_iff (v : Nat) (hv : v < 4) : (v &&& 1 ≠ 0) ↔ v % 2 = 1 := by
  interval_cases v <;> decide

theorem liftX_eq (x : Nat) (odd : Bool) (hx : x < P) :
    liftX x odd = (decompressY x odd).map (fun y => (x, y)) := by
  unfold liftX decompressY fsqrt
  rw [if_neg (by omega)]
  have ha : fadd (fmul (fsq x) x) 7 % P = fadd (fmul (fsq x) x) 7 := Nat.mod_eq_of_lt (fadd_lt _ _)
  simp only [ha, beq_iff_eq]
  generalize fadd (fmul (fsq x) x) 7 = a
  by_cases h1 : fsq (fsqrtCand a) = a
  · simp only [h1, if_true, Option.map_some]
    cases hpar : (fsqrtCand a % 2 == 1) <;> cases odd <;> simp
  · simp only [h1, if_false, Option.map_none]

theorem recover_tail (hp : PointSpec) (x y u1 u2 : Nat) (hon : OnCurve x y) (h1 : u1 < N) (h2 : u2 < N) :
    Except.toOption (if isInfJ (addNC3 (scalarBaseMultNC u1) (scalarMultNC u2 (x, y, 1))) then
        (.error .ErrPointNotOnCurve : Except RecErr (Nat × Nat))
      else .ok ((toAffineJ (addNC3 (scalarBaseMultNC u1) (scalarMultNC u2 (x, y, 1)))).1,
                (toAffineJ (addNC3 (scalarBaseMultNC u1) (scalarMultNC u2 (x, y, 1)))).2.1)) =
    Pt.add (smul u1 G) (smul u2 (some (x, y))) := by
  obtain ⟨w3, t3⟩ := lincomb hp h1 h2 hon
  rw [← t3]
  generalize addNC3 (scalarBaseMultNC u1) (scalarMultNC u2 (x, y, 1)) = Q at w3 t3 ⊢
  rcases PointOps.toPt_cases hp Q w3 with ⟨hi, ht⟩ | ⟨a, b, hi, ht, ha⟩
  · rw [hi, ht]; rfl
  · rw [hi, ht, ha]; rfl

theorem toOption_eq (e : Except RecErr (Nat × Nat)) :
    (match e with | .ok q => some q | .error _ => none) = e.toOption := by
  cases e <;> rfl

theorem export_spec (r s v : Nat) (hs : s < N) :
    exportM r s v = if s > halfN then (r, N - s, v ^^^ 1) else (r, s, v) := by
  unfold exportM
  split_ifs with h
  · rw [nneg_eq (by omega) hs]
  · rfl

theorem export_cases (r s v : Nat) (hs0 : 0 < s) (hs : s < N) (hv : v < 4) :
    ∃ s' v', exportM r s v = (r, s', v') ∧ 0 < s' ∧ s' < N ∧ v' < 4 := by
  rw [export_spec r s v hs]
  split_ifs with h
  · exact ⟨N - s, v ^^^ 1, rfl, by omega, by omega, xor_one_lt_four v hv⟩
  · exact ⟨s, v, rfl, hs0, hs, hv⟩

theorem parseCompactM_cons (c : UInt8) (a b : Bytes) (ha : a.length = 32) (hb : b.length = 32) (r s : Nat)
    (hra : scalarSetByteSlice a = (r, false)) (hsb : scalarSetByteSlice b = (s, false))
    (hr0 : r ≠ 0) (hs0 : s ≠ 0) (hc : ¬ (c.toNat < 27 ∨ c.toNat > 34)) :
    parseCompactM (c :: (a ++ b)) =
      .ok (r, s, (c.toNat - 27) &&& 3, decide ((c.toNat - 27) &&& 4 ≠ 0)) := by
  have htake : (a ++ b).take 32 = a := List.take_left' ha
  have hdrop : (a ++ b).drop 32 = b := List.drop_left' ha
  simp [parseCompactM, ha, hb, htake, hdrop, hra, hsb, hr0, hs0, hc]

/-- the header byte of a compact signature is 27 + code, + 4 when the key is compressed; `% 256 % 256` is
    `UInt8.ofNat (… % 256)` read back with `toNat` -/
theorem code_bits (v : Nat) (comp : Bool) (hv : v < 4) :
    (v + (if comp then 31 else 27)) % 256 % 256 = v + (if comp then 31 else 27) ∧
    ¬ (v + (if comp then 31 else 27) < 27 ∨ v + (if comp then 31 else 27) > 34) ∧
    (v + (if comp then 31 else 27) - 27) &&& 3 = v ∧
    decide ((v + (if comp then 31 else 27) - 27) &&& 4 ≠ 0) = comp := by
  interval_cases v <;> cases comp <;> decide

end Secp.Proofs.Ecdsa
