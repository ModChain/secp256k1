import Secp.Core.FOp
/-
  Proofs/FOpLemmas — the lemmas of `Core/FOp` itself: register files and abstract states as
  get/set structures, and the one fact every interpretation of `FOp` shares: an operation WRITES
  ONE REGISTER (`dest`) with a value computed from the registers it reads (`valF`, `valA`; `valL` for
  limbs is in AbsSound).  Soundness, monotonicity, frame and length statements about `stepF` /
  `stepA` are statements about these values plus one update lemma.  A predicate reads the registers
  `condRegs`, and the interpreter accepts it when all of them are known to be normalised.

  Core-only.
-/
namespace Secp.FOp
open Secp.Spec

theorem length_rset (r : Regs) (d v : Nat) : (rset r d v).length = r.length := by
  simp [rset]

theorem rget_rset (r : Regs) (d v i : Nat) :
    rget (rset r d v) i = if i = d ∧ d < r.length then v else rget r i := by
  unfold rget rset
  grind

theorem aget_lt {σ : AState} {i : Nat} {v : AV} (h : aget σ i = some v) : i < σ.length := by
  unfold aget at h
  grind

theorem aget_aset (σ : AState) (i j : Nat) (v : AV) :
    aget (aset σ i v) j = if j = i then some v else aget σ j := by
  unfold aget aset
  split
  · grind
  · simp only [List.getElem?_append, List.getElem?_replicate, List.length_append, List.length_replicate]
    grind

theorem length_aset_le (σ : AState) (i n : Nat) (v : AV) (hσ : σ.length ≤ n) (hi : i < n) :
    (aset σ i v).length ≤ n := by
  unfold aset
  grind

def dest : FOp → Nat
  | .set d _ => d | .setInt d _ => d | .zero d => d | .neg d _ _ => d | .add d _ => d
  | .add2 d _ _ => d | .addInt d _ => d | .mulInt d _ => d | .mul2 d _ _ => d | .sq d _ => d
  | .norm d => d

def valF (r : Regs) : FOp → Nat
  | .set _ s => rget r s
  | .setInt _ v => v % P
  | .zero _ => 0
  | .neg _ s _ => fneg (rget r s)
  | .add d s => fadd (rget r d) (rget r s)
  | .add2 _ a b => fadd (rget r a) (rget r b)
  | .addInt d v => fadd (rget r d) v
  | .mulInt d v => fmul (rget r d) v
  | .mul2 _ a b => fmul (rget r a) (rget r b)
  | .sq _ a => fsq (rget r a)
  | .norm d => rget r d % P

theorem stepF_eq (r : Regs) (o : FOp) : stepF r o = rset r (dest o) (valF r o) := by
  cases o <;> rfl

theorem length_stepF (r : Regs) (o : FOp) : (stepF r o).length = r.length := by
  rw [stepF_eq, length_rset]

theorem rget_stepF_of_ne (r : Regs) (o : FOp) (i : Nat) (h : dest o ≠ i) :
    rget (stepF r o) i = rget r i := by
  rw [stepF_eq, rget_rset, if_neg fun e => h e.1.symm]

def rdMag (σ : AState) (s : Nat) (f : Nat → Option AV) : Option AV := (aget σ s).bind fun x => f x.1

theorem rdMag_some {σ : AState} {s : Nat} {f : Nat → Option AV} {v : AV} (h : rdMag σ s f = some v) :
    ∃ m n, aget σ s = some (m, n) ∧ f m = some v := by
  unfold rdMag at h
  cases hs : aget σ s with
  | none => rw [hs] at h; cases h
  | some x => rw [hs] at h; exact ⟨x.1, x.2, rfl, h⟩

/-- the bounds on immediates are the Go parameter types: `SetInt` / `AddInt(ui uint16)`, `MulInt(val uint8)` (field.go) -/
def valA (σ : AState) : FOp → Option AV
  | .set _ s => aget σ s
  | .setInt _ v => if v < 2 ^ 16 then some (1, true) else none
  | .zero _ => some (1, true)
  | .neg _ s m => rdMag σ s fun ms => if ms ≤ m ∧ m ≤ maxMag then some (m + 1, false) else none
  | .add d s => rdMag σ d fun md => rdMag σ s fun ms =>
      if md + ms ≤ maxMag then some (md + ms, false) else none
  | .add2 _ a b => rdMag σ a fun ma => rdMag σ b fun mb =>
      if ma + mb ≤ maxMag then some (ma + mb, false) else none
  | .addInt d v => rdMag σ d fun md =>
      if md + 1 ≤ maxMag ∧ v < 2 ^ 16 then some (md + 1, false) else none
  | .mulInt d v => rdMag σ d fun md =>
      if md * v ≤ maxMag ∧ v < 256 ∧ 0 < v then some (md * v, false) else none
  | .mul2 _ a b => rdMag σ a fun ma => rdMag σ b fun mb =>
      if ma ≤ mulMag ∧ mb ≤ mulMag then some (1, false) else none
  | .sq _ a => rdMag σ a fun ma => if ma ≤ mulMag then some (1, false) else none
  | .norm d => rdMag σ d fun md => if md ≤ maxMag then some (1, true) else none

theorem stepA_eq (σ : AState) (o : FOp) : stepA σ o = (valA σ o).map (aset σ (dest o)) := by
  cases o with
  | set d s => simp only [stepA, valA, dest]; cases aget σ s <;> rfl
  | _ => simp only [stepA, valA, rdMag, dest, Option.map_bind, Function.comp_def,
      apply_ite (Option.map _), Option.map_some, Option.map_none, Option.bind_eq_bind, Option.pure_def]

end Secp.FOp

-- register footprints of the operations, under the namespace of the soundness proof that cites them
namespace Secp.Proofs.AbsSound
open Secp.FOp

def opRegs : FOp → List Nat
  | .set d s => [d, s]
  | .setInt d _ => [d]
  | .zero d => [d]
  | .neg d s _ => [d, s]
  | .add d s => [d, s]
  | .add2 d a b => [d, a, b]
  | .addInt d _ => [d]
  | .mulInt d _ => [d]
  | .mul2 d a b => [d, a, b]
  | .sq d a => [d, a]
  | .norm d => [d]

def condRegs : FCond → List Nat
  | .equals a b => [a, b]
  | .isZero a => [a]
  | .isOne a => [a]
  | .isOdd a => [a]
  | .boolIn _ => []

theorem dest_mem_opRegs (o : FOp) : dest o ∈ opRegs o := by
  cases o <;> simp [dest, opRegs]

theorem condA_eq_all (σ : AState) (c : FCond) :
    condA σ c = (condRegs c).all fun i => (aget σ i).any (·.2) := by
  cases c <;> simp [condA, condRegs]

theorem condA_norm {σ : AState} {c : FCond} (h : condA σ c = true) :
    ∀ i ∈ condRegs c, ∃ m, aget σ i = some (m, true) := by
  intro i hi
  obtain ⟨⟨m, n⟩, hx, hn⟩ := (Option.any_eq_true _ _).mp (List.all_eq_true.mp (condA_eq_all σ c ▸ h) i hi)
  exact ⟨m, by rw [hx]; cases hn; rfl⟩

end Secp.Proofs.AbsSound
