import Secp.Proofs.Primes
import Mathlib.FieldTheory.Finite.Basic
import Mathlib.NumberTheory.LegendreSymbol.Basic
/-
  Proofs/FieldBridge — the executable `Nat` arithmetic of `Spec/Field` computes in
  `ZMod P` / `ZMod N`; the inverse by Euclid's algorithm (`invLoop`, `finvE`) is the same function as
  `finv`; square roots (P ≡ 3 mod 4), `-7` is not a cube mod P, and the numeric relations between P and N.
-/

namespace Secp.Proofs
open Secp.Spec

theorem two_lt_P : 2 < P := by decide +kernel
theorem P_pos : 0 < P := Nat.zero_lt_of_lt two_lt_P
theorem two_lt_N : 2 < N := by decide +kernel
theorem N_pos : 0 < N := Nat.zero_lt_of_lt two_lt_N
/-- the counting bound of `Cyclic.card_E`: the curve has at most `2·P + 1` points, fewer than `3·N` -/
theorem two_P_succ_lt_three_N : 2 * P + 1 < 3 * N := by decide +kernel
theorem P_lt_two_N : P < 2 * N := by decide +kernel
theorem N_lt_P : N < P := by decide +kernel
theorem one_lt_P : 1 < P := Nat.lt_of_succ_lt two_lt_P

theorem P_mod_four : P % 4 = 3 := by decide +kernel
theorem P_mod_three : P % 3 = 1 := by decide +kernel

theorem powMod_lt (b e : Nat) {m : Nat} (hm : 0 < m) : powMod b e m < m := by
  rw [powMod_eq]; exact Nat.mod_lt _ hm

theorem cast_powMod (a k p : Nat) : ((powMod a k p : Nat) : ZMod p) = (a : ZMod p) ^ k := by
  rw [powMod_eq, ZMod.natCast_mod, Nat.cast_pow]

theorem zmod_pow_sub_two {p : Nat} [Fact p.Prime] (hp : 2 < p) (x : ZMod p) :
    x ^ (p - 2) = x⁻¹ := by
  by_cases hx : x = 0
  · subst hx
    rw [inv_zero, zero_pow (by omega)]
  · apply eq_inv_of_mul_eq_one_left
    rw [← pow_succ]
    have h : p - 2 + 1 = p - 1 := by omega
    rw [h]
    exact ZMod.pow_card_sub_one_eq_one hx

theorem cast_add_mod (a b p : Nat) : (((a + b) % p : Nat) : ZMod p) = (a : ZMod p) + b := by
  rw [ZMod.natCast_mod, Nat.cast_add]

theorem cast_mul_mod (a b p : Nat) : (((a * b) % p : Nat) : ZMod p) = (a : ZMod p) * b := by
  rw [ZMod.natCast_mod, Nat.cast_mul]

theorem cast_sub_mod_self (b : Nat) {p : Nat} (hp : 0 < p) :
    ((p - b % p : Nat) : ZMod p) = -(b : ZMod p) := by
  rw [Nat.cast_sub (Nat.mod_lt _ hp).le, ZMod.natCast_self, ZMod.natCast_mod, zero_sub]

theorem cast_neg_mod (a : Nat) {p : Nat} (hp : 0 < p) :
    (((p - a % p) % p : Nat) : ZMod p) = -(a : ZMod p) := by
  rw [ZMod.natCast_mod, cast_sub_mod_self a hp]

theorem cast_sub_mod (a b : Nat) {p : Nat} (hp : 0 < p) :
    (((a + (p - b % p)) % p : Nat) : ZMod p) = (a : ZMod p) - b := by
  rw [ZMod.natCast_mod, Nat.cast_add, cast_sub_mod_self b hp, sub_eq_add_neg]

theorem fadd_cast (a b : Nat) : ((fadd a b : Nat) : ZMod P) = (a : ZMod P) + (b : ZMod P) :=
  cast_add_mod a b P
theorem fsub_cast (a b : Nat) : ((fsub a b : Nat) : ZMod P) = (a : ZMod P) - (b : ZMod P) :=
  cast_sub_mod a b P_pos
theorem fneg_cast (a : Nat) : ((fneg a : Nat) : ZMod P) = -(a : ZMod P) :=
  cast_neg_mod a P_pos
theorem fmul_cast (a b : Nat) : ((fmul a b : Nat) : ZMod P) = (a : ZMod P) * (b : ZMod P) :=
  cast_mul_mod a b P
theorem fsq_cast (a : Nat) : ((fsq a : Nat) : ZMod P) = (a : ZMod P) * (a : ZMod P) :=
  cast_mul_mod a a P
theorem fsq_cast_pow (a : Nat) : ((fsq a : Nat) : ZMod P) = (a : ZMod P) ^ 2 := by
  rw [fsq_cast, pow_two]
theorem finv_cast (a : Nat) : ((finv a : Nat) : ZMod P) = (a : ZMod P)⁻¹ := by
  unfold finv
  rw [cast_powMod, zmod_pow_sub_two two_lt_P]
theorem fsqrtCand_cast (a : Nat) :
    ((fsqrtCand a : Nat) : ZMod P) = (a : ZMod P) ^ ((P + 1) / 4) := by
  unfold fsqrtCand
  rw [cast_powMod]

theorem fadd_lt (a b : Nat) : fadd a b < P := Nat.mod_lt _ P_pos
theorem fsub_lt (a b : Nat) : fsub a b < P := Nat.mod_lt _ P_pos
theorem fneg_lt (a : Nat) : fneg a < P := Nat.mod_lt _ P_pos
theorem fmul_lt (a b : Nat) : fmul a b < P := Nat.mod_lt _ P_pos
theorem fsq_lt (a : Nat) : fsq a < P := Nat.mod_lt _ P_pos
theorem finv_lt (a : Nat) : finv a < P := powMod_lt _ _ P_pos
theorem fsqrtCand_lt (a : Nat) : fsqrtCand a < P := powMod_lt _ _ P_pos

theorem fmul_mod (a b : Nat) : fmul a b % P = fmul a b := Nat.mod_mod _ _
theorem fneg_mod (a : Nat) : fneg a % P = fneg a := Nat.mod_mod _ _

theorem mod_P_eq_iff (a b : Nat) : a % P = b % P ↔ (a : ZMod P) = (b : ZMod P) :=
  (ZMod.natCast_eq_natCast_iff' a b P).symm

theorem eq_of_cast_eq_P {a b : Nat} (ha : a < P) (hb : b < P)
    (h : (a : ZMod P) = (b : ZMod P)) : a = b := by
  have := (mod_P_eq_iff a b).2 h
  rwa [Nat.mod_eq_of_lt ha, Nat.mod_eq_of_lt hb] at this

theorem cast_eq_iff_of_lt {a b : Nat} (ha : a < P) (hb : b < P) : (a : ZMod P) = (b : ZMod P) ↔ a = b :=
  ⟨eq_of_cast_eq_P ha hb, fun h => by rw [h]⟩

theorem cast_eq_zero_iff_of_lt {a : Nat} (ha : a < P) : (a : ZMod P) = 0 ↔ a = 0 := by
  rw [← Nat.cast_zero (R := ZMod P), cast_eq_iff_of_lt ha P_pos]

theorem cast_eq_zero_iff_mod (a : Nat) : (a : ZMod P) = 0 ↔ a % P = 0 := by
  rw [← Nat.cast_zero, ← mod_P_eq_iff, Nat.zero_mod]

/-- Euclid's algorithm on `(r0, r1)`, carrying `t0`, `t1` with `tᵢ · a ≡ rᵢ (mod m)` -/
def invLoop (m : Nat) : Nat → Nat → Nat → Nat → Nat → Nat
  | 0, _, _, t0, _ => t0
  | f+1, r0, r1, t0, t1 =>
    if r1 = 0 then t0 else invLoop m f r1 (r0 % r1) t1 ((t0 + (m - r0 / r1 % m) * t1) % m)

theorem invLoop_spec {m : Nat} (hm : 0 < m) (a : ZMod m) : ∀ (f r0 r1 t0 t1 : Nat), r1 < f → t0 < m → t1 < m →
    (t0 : ZMod m) * a = r0 → (t1 : ZMod m) * a = r1 →
    invLoop m f r0 r1 t0 t1 < m ∧ (invLoop m f r0 r1 t0 t1 : ZMod m) * a = (Nat.gcd r0 r1 : ZMod m) := by
  intro f
  induction f with
  | zero => intro _ _ _ _ h; exact absurd h (Nat.not_lt_zero _)
  | succ f ih =>
    intro r0 r1 t0 t1 hf ht ht1 h0 h1
    unfold invLoop
    split
    · next h => subst h; exact ⟨ht, by rw [Nat.gcd_zero_right]; exact h0⟩
    · next h =>
      have hr : r0 % r1 < r1 := Nat.mod_lt _ (Nat.pos_of_ne_zero h)
      rw [Nat.gcd_comm, Nat.gcd_rec, Nat.gcd_comm]
      refine ih r1 (r0 % r1) t1 _ (by omega) ht1 (Nat.mod_lt _ hm) h1 ?_
      have hdiv : ((r0 % r1 : Nat) : ZMod m) = r0 - r1 * (r0 / r1 : Nat) := by
        rw [eq_sub_iff_add_eq, ← Nat.cast_mul, ← Nat.cast_add, Nat.mod_add_div]
      rw [ZMod.natCast_mod, Nat.cast_add, Nat.cast_mul, cast_sub_mod_self _ hm, hdiv, ← h0, ← h1]
      ring

/-- `finv` by Euclid's algorithm instead of Fermat's exponentiation, so that the kernel can evaluate the
    long chains of affine group operations of `smul_N_G` and `endo_G` -/
def finvE (a : Nat) : Nat := invLoop P P P (a % P) 0 1

theorem finvE_eq (a : Nat) : finvE a = finv a := by
  obtain ⟨hlt, he⟩ := invLoop_spec P_pos (a : ZMod P) P P (a % P) 0 1 (Nat.mod_lt _ P_pos) P_pos
    one_lt_P (by simp) (by simp)
  refine eq_of_cast_eq_P hlt (finv_lt a) ?_
  rw [finv_cast]
  by_cases h0 : a % P = 0
  · have : (a : ZMod P) = 0 := (cast_eq_zero_iff_mod a).2 h0
    rw [this, inv_zero]
    unfold finvE
    rw [h0]
    rfl
  · have hc : Nat.gcd P (a % P) = 1 := (Nat.Prime.coprime_iff_not_dvd P_prime).2
      (Nat.not_dvd_of_pos_of_lt (Nat.pos_of_ne_zero h0) (Nat.mod_lt _ P_pos))
    rw [hc, Nat.cast_one] at he
    exact eq_inv_of_mul_eq_one_left he

theorem nadd_cast (a b : Nat) : ((nadd a b : Nat) : ZMod N) = (a : ZMod N) + (b : ZMod N) :=
  cast_add_mod a b N
theorem nneg_cast (a : Nat) : ((nneg a : Nat) : ZMod N) = -(a : ZMod N) :=
  cast_neg_mod a N_pos
theorem nmul_cast (a b : Nat) : ((nmul a b : Nat) : ZMod N) = (a : ZMod N) * (b : ZMod N) :=
  cast_mul_mod a b N
theorem ninv_cast (a : Nat) : ((ninv a : Nat) : ZMod N) = (a : ZMod N)⁻¹ := by
  unfold ninv
  rw [cast_powMod, zmod_pow_sub_two two_lt_N]

theorem nadd_lt (a b : Nat) : nadd a b < N := Nat.mod_lt _ N_pos
theorem nneg_lt (a : Nat) : nneg a < N := Nat.mod_lt _ N_pos
theorem nmul_lt (a b : Nat) : nmul a b < N := Nat.mod_lt _ N_pos
theorem ninv_lt (a : Nat) : ninv a < N := powMod_lt _ _ N_pos

theorem mod_N_eq_iff (a b : Nat) : a % N = b % N ↔ (a : ZMod N) = (b : ZMod N) :=
  (ZMod.natCast_eq_natCast_iff' a b N).symm

theorem eq_of_cast_eq_N {a b : Nat} (ha : a < N) (hb : b < N)
    (h : (a : ZMod N) = (b : ZMod N)) : a = b := by
  have := (mod_N_eq_iff a b).2 h
  rwa [Nat.mod_eq_of_lt ha, Nat.mod_eq_of_lt hb] at this

theorem zmod_sqrtCand_spec (x : ZMod P) :
    x ^ ((P + 1) / 4) * x ^ ((P + 1) / 4) = x ↔ IsSquare x := by
  constructor
  · intro h
    exact ⟨x ^ ((P + 1) / 4), h.symm⟩
  · intro h
    by_cases hx : x = 0
    · subst hx
      rw [zero_pow (by decide +kernel), mul_zero]
    · have he : x ^ (P / 2) = 1 := (ZMod.euler_criterion P hx).1 h
      rw [← pow_add, show (P + 1) / 4 + (P + 1) / 4 = P / 2 + 1 by decide +kernel,
        pow_succ, he, one_mul]

theorem fsqrtCand_spec (a : Nat) :
    fsq (fsqrtCand a) = a % P ↔ IsSquare ((a : Nat) : ZMod P) := by
  rw [← zmod_sqrtCand_spec, ← fsqrtCand_cast, ← Nat.cast_mul]
  unfold fsq
  exact mod_P_eq_iff _ _

theorem fsqrt_some {a r : Nat} (h : fsqrt a = some r) : r < P ∧ (r * r) % P = a % P := by
  unfold fsqrt at h
  simp only at h
  split at h
  · rename_i hc
    have hr : fsqrtCand a = r := Option.some.inj h
    subst hr
    exact ⟨fsqrtCand_lt a, hc⟩
  · exact absurd h (by simp)

theorem fsqrt_none {a : Nat} (h : fsqrt a = none) : ¬ ∃ y : Nat, (y * y) % P = a % P := by
  unfold fsqrt at h
  simp only at h
  split at h
  · exact absurd h (by simp)
  · rename_i hc
    rintro ⟨y, hy⟩
    apply hc
    rw [fsqrtCand_spec]
    refine ⟨(y : ZMod P), ?_⟩
    rw [← Nat.cast_mul]
    exact ((mod_P_eq_iff _ _).1 hy).symm

theorem fsqrt_isSome_iff (a : Nat) : (fsqrt a).isSome ↔ IsSquare ((a : Nat) : ZMod P) := by
  rw [← fsqrtCand_spec]
  unfold fsqrt
  simp only
  split <;> simp_all

theorem neg7_pow_ne_one : powMod (P - 7) ((P - 1) / 3) P ≠ 1 := by decide +kernel

theorem cast_P_sub_seven : ((P - 7 : Nat) : ZMod P) = -7 := by
  rw [Nat.cast_sub (by decide +kernel), ZMod.natCast_self, zero_sub]
  norm_num

theorem neg7_ne_zero : (-7 : ZMod P) ≠ 0 := by
  rw [← cast_P_sub_seven, Ne, ZMod.natCast_eq_zero_iff]
  decide +kernel

/-- so `y = 0` is impossible on `y² = x³ + 7` (`SpecGroup.y_ne_zero`) -/
theorem neg7_not_cube : ¬ ∃ x : ZMod P, x ^ 3 = -7 := by
  rintro ⟨x, hx⟩
  have hx0 : x ≠ 0 := by
    rintro rfl
    rw [zero_pow (by norm_num)] at hx
    exact neg7_ne_zero hx.symm
  have h1 : (-7 : ZMod P) ^ ((P - 1) / 3) = 1 := by
    rw [← hx, ← pow_mul, show 3 * ((P - 1) / 3) = P - 1 by decide +kernel]
    exact ZMod.pow_card_sub_one_eq_one hx0
  rw [← cast_P_sub_seven, zmod_pow_eq_one_iff one_lt_P.ne'] at h1
  exact neg7_pow_ne_one h1

end Secp.Proofs
