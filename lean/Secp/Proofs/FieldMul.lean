import Secp.Proofs.IRRun
import Secp.Gen.Bounds
import Secp.Proofs.FieldSmall
import Secp.Proofs.Ind
import Mathlib.Tactic.Ring
import Mathlib.Tactic.LinearCombination
/-
  Proofs/FieldMul — C05 for the three non-trivial field kernels: Mul2, SquareVal, Normalize.

  Method (all three): `kernel_steps` + `ir_steps` turn the run of the GENERATED kernel under its
  interval contract (Gen/Bounds) into one named ideal-semantics value per SSA entry, with the
  derived numeric bounds and the fact that the Go semantics `runW` returns the ideal outputs.

  * Normalize: two carry chains.  The first folds the bits ≥ 256 down once and leaves t < 2P; the
    constant-time mask between them is the indicator of P ≤ t (`and_max`, `ge_low`); the second
    adds mask·(2^256 − P) and drops bit 256 (`cond_sub` of Proofs/Ind, the step the scalar
    reductions end with).
  * Mul2 / SquareVal: three carry chains (`Radix.carry_step`): the 19 product columns into 20
    words t, the fold of t[10..19] by 2^260 ≡ 2^36 + 15632, the fold of bits ≥ 256 by
    2^256 ≡ 2^32 + 977.  Each gives `val digits = val columns`; the result is their sum.

  The receiver's limbs stay among the inputs, bounded by `hf : f.U32` (the scalar proofs replace
  theirs by zeros, `IRIndep.runW_prefix`).
-/
namespace Secp.Proofs.FieldMul
open Secp.Spec Secp.Gen Secp.Limbs Secp.Gen.Bounds Secp.Proofs.IRRun Secp.Radix
open Secp.Proofs.ScalarLemmas Secp.Proofs.FieldSmall

theorem and_max_top {B M x : Nat} {xs cs : List Nat} (hx : x < B) (hM : M + 1 = B) :
    x < B ∧ (val B xs = val B cs ∧ x = M ↔ val B (x :: xs) = val B (M :: cs)) :=
  ⟨hx, (val_cons_eq hx (by omega)).symm⟩

/-- one more digit `x` under the `&` of `x₈ & x₇ & … == M`, `M = B - 1`; `q` is what has been
    compared above -/
theorem and_max {B M A x : Nat} {q : Prop} {xs cs : List Nat} (hx : x < B) (hM : M + 1 = B)
    (h : A < B ∧ (q ∧ A = M ↔ val B xs = val B cs)) :
    A &&& x < B ∧ (q ∧ A &&& x = M ↔ val B (x :: xs) = val B (M :: cs)) := by
  have h1 := Nat.and_le_left (n := A) (m := x)
  have h2 := Nat.and_le_right (n := A) (m := x)
  refine ⟨by omega, ?_⟩
  rw [val, val, val_cons_eq hx (by omega), ← h.2]
  constructor
  · rintro ⟨hq, e⟩; exact ⟨⟨hq, by omega⟩, by omega⟩
  · rintro ⟨⟨hq, rfl⟩, rfl⟩; exact ⟨hq, Nat.and_self _⟩

/-- the bit above the `k` low ones decides the comparison with `c = 2^k - 1` -/
theorem top_bit {B x k c : Nat} (h : x < 2 ^ (k + 1)) (hc : c + 1 = 2 ^ k) :
    Ind (x / 2 ^ k) (val B [c] < val B [x]) := by
  rw [Nat.pow_succ] at h
  simp only [val, Nat.mul_zero, Nat.add_zero]
  rcases Nat.lt_or_ge c x with l | l
  · exact Or.inl ⟨Nat.div_eq_of_lt_le (by omega) (by omega), l⟩
  · exact Or.inr ⟨Nat.div_eq_of_lt (by omega), Nat.not_lt.2 l⟩

/-- the two low limbs against those of `P`, as Normalize tests them: does adding `2^32 + 977`
    carry out of limb 1 -/
theorem ge_low {t0 t1 : Nat} {xs cs : List Nat} (h0 : t0 < 2 ^ 26) (h1 : t1 < 2 ^ 26) :
    (val (2 ^ 26) xs = val (2 ^ 26) cs ∧ 67108863 < t1 + (64 + (t0 + 977) / 2 ^ 26)) ∨
        val (2 ^ 26) cs < val (2 ^ 26) xs ↔
      val (2 ^ 26) (67107887 :: 67108799 :: cs) ≤ val (2 ^ 26) (t0 :: t1 :: xs) := by
  rw [val, val, val, val, val_cons_le h0 (by decide), val_cons_lt h1 (by decide),
    val_cons_eq h1 (by decide)]
  omega

theorem normalize_spec (f : L10) (hf : f.U32) :
    ∃ o : L10, Field_Normalize.runW f.toList = o.toList ∧ o.Normalized ∧ o.val = f.val % P := by
  have h := kernel_steps Field_Normalize _ _ _ _ (within_full hf.allLt) Field_Normalize_full_mid_ok
    Field_Normalize_full_out_ok
  simp only [L10.toList, List.reverse_cons, List.reverse_nil, List.nil_append, List.cons_append] at h
  ir_steps h
  obtain ⟨hW, hrun⟩ := h.out
  -- (47 SSA values: `hW.ub i` bounds v(46 − i))
  -- first pass: the bits v0 above 2^256 folded down (2^256 = P + 2^32 + 977), carries propagated
  -- into t = v4, v6, .., v20, v19 with t₉ < 2^22 + 64
  have ph1 := carry_step e4 e3 <| carry_step e6 e5 <| carry_step e8 e7 <| carry_step e10 e9 <|
    carry_step e12 e11 <| carry_step e14 e13 <| carry_step e16 e15 <| carry_step e18 e17 <|
    carry_step e20 (conv_id e19 (Nat.add_le_add (Nat.div_le_div_right (hW.ub 29)) (hW.ub 45)))
      (rfl : val _ [v19] = _)
  have h4 := digit_lt e4; have h6 := digit_lt e6; have h8 := digit_lt e8; have h10 := digit_lt e10
  have h12 := digit_lt e12; have h14 := digit_lt e14; have h16 := digit_lt e16; have h18 := digit_lt e18
  have h20 := digit_lt e20
  -- the mask v26 = [P ≤ t].  Above limb 1 all limbs of P but the top one are 2^26 − 1: t is equal
  -- to P there ..
  have i22 := Ind.and e22 (Ind.lex_eq_top (B := 2 ^ 26) e21) (Ind.beq rfl)
    (and_max h8 rfl <| and_max h10 rfl <| and_max h12 rfl <| and_max h14 rfl <| and_max h16 rfl <|
      and_max h18 rfl <| and_max_top h20 rfl).2
  -- .. or greater, which only bit 22 of t₉ can bring about.  `g` is built with no expected type, so
  -- `x` is given: elaboration would take it from `hW.ub 27`, where it is the unreduced `env.getD 27 0`
  have g := Ind.lex_gt_max h8 rfl <| Ind.lex_gt_max h10 rfl <| Ind.lex_gt_max h12 rfl <|
    Ind.lex_gt_max h14 rfl <| Ind.lex_gt_max h16 rfl <| Ind.lex_gt_max h18 rfl <|
    Ind.lex_gt_max h20 rfl <| top_bit (x := v19) (k := 22) (Nat.lt_of_le_of_lt (hW.ub 27) (by decide)) rfl
  rw [e23] at e24
  have i26 := Ind.or e26 (Ind.and e25 i22 (Ind.dec e24) Iff.rfl) g (ge_low h4 h6)
  rw [← P_limbs] at i26
  -- second pass: v26·(2^32 + 977) added, carries propagated, bit 256 dropped
  have ph2 := carry_step e29 e28 <| carry_step e31 e30 <| carry_step e33 e32 <| carry_step e35 e34 <|
    carry_step e37 e36 <| carry_step e39 e38 <| carry_step e41 e40 <| carry_step e43 e42 <|
    carry_step e45 e44 (rfl : val _ [v44] = _)
  have top := digit_carry e46 rfl
  have hT : (⟨v29, v31, v33, v35, v37, v39, v41, v43, v45, v46⟩ : L10).Tight :=
    ⟨digit_lt e29, digit_lt e31, digit_lt e33, digit_lt e35, digit_lt e37, digit_lt e39, digit_lt e41,
      digit_lt e43, digit_lt e45, digit_lt e46⟩
  have hV : val (2 ^ 26) [v4, v6, v8, v10, v12, v14, v16, v18, v20, v19] ≤ val (2 ^ 26) [67108863, 67108863,
      67108863, 67108863, 67108863, 67108863, 67108863, 67108863, 67108863, 4194367] :=
    val_cons_le_max h4 rfl <| val_cons_le_max h6 rfl <| val_cons_le_max h8 rfl <| val_cons_le_max h10 rfl <|
    val_cons_le_max h12 rfl <| val_cons_le_max h14 rfl <| val_cons_le_max h16 rfl <|
    val_cons_le_max h18 rfl <| val_cons_le_max h20 rfl <| Nat.add_le_add_right (hW.ub 27) _
  -- `c = 0`: `W` is all of t, which is below 2P (in `tail385` the ninth word is the carry `c`);
  -- the carry dropped is bit 22 of limb 9, not a bit 256 of its own
  obtain ⟨eq, lt⟩ := cond_sub (N := P) (K := 2 ^ 32 + 977) (c := 0) (c' := v44 / 2 ^ 22) rfl
    (Nat.lt_of_le_of_lt hV (by decide)) hT.val_lt (by rw [Nat.zero_mul, Nat.add_zero]) i26 (by
      simp only [L10.val, val] at top ph2 ⊢; linear_combination ph2 + 2 ^ 234 * top + e27)
  rw [Nat.zero_add] at eq
  refine ⟨⟨v29, v31, v33, v35, v37, v39, v41, v43, v45, v46⟩, hrun, ⟨hT, lt⟩,
    (eq_mod_of_add_mul eq lt).trans (mod_of_add_mul (q := v0) ?_)⟩
  have x9 := digit_carry e1 e0
  rw [ph1, e2]; simp only [L10.val, val, P]; linear_combination 2 ^ 234 * x9

theorem mul2_spec (f a b : L10) (hf : f.U32) (ha : a.MagLE 8) (hb : b.MagLE 8) :
    ∃ o : L10, Field_Mul2.runW (f.toList ++ a.toList ++ b.toList) = o.toList ∧ o.MagLE 1 ∧
      o.val % P = (a.val * b.val) % P := by
  have h := kernel_steps Field_Mul2 _ _ _ _ (((within_full hf.allLt).append ha.within).append hb.within)
    Field_Mul2_m8_mid_ok Field_Mul2_m8_out_ok
  simp only [L10.toList, List.reverse_cons, List.reverse_nil, List.nil_append, List.cons_append] at h
  ir_steps h
  obtain ⟨hW, hrun⟩ := h.out
  -- (72 SSA values: `hW.ub i` bounds v(71 − i))
  -- the product columns, carried into the 20 words t = v1, v3, .., v37, v38
  have ph1 := carry_step e1 e2 <| carry_step e3 e4 <| carry_step e5 e6 <| carry_step e7 e8 <|
    carry_step e9 e10 <| carry_step e11 e12 <| carry_step e13 e14 <| carry_step e15 e16 <|
    carry_step e17 e18 <| carry_step e19 e20 <| carry_step e21 e22 <| carry_step e23 e24 <|
    carry_step e25 e26 <| carry_step e27 e28 <| carry_step e29 e30 <| carry_step e31 e32 <|
    carry_step e33 e34 <| carry_step e35 e36 <| carry_last e37 e38
  -- t[10..19]·2^260 folded down: 2^260 = 16·P + 2^36 + 15632
  have ph2 := carry_step e40 e41 <| carry_step e42 e43 <| carry_step e44 e45 <| carry_step e46 e47 <|
    carry_step e48 e49 <| carry_step e50 e51 <| carry_step e52 e53 <| carry_step e54 e55 <|
    carry_step e56 e57 (rfl : val _ [v57] = _)
  -- the bits v59 above 2^256 folded down: 2^256 = P + 2^32 + 977
  have top := digit_carry e58 e59
  have ph3 := carry_step e61 e62 <| carry_step e63
    (conv_id e64 (Nat.add_le_add (Nat.div_le_div_right (hW.ub 9)) (hW.ub 27))) (rfl : val _ [v64] = _)
  have e65 := conv_id e65 (hW.ub 25)
  have e66 := conv_id e66 (hW.ub 23)
  have e67 := conv_id e67 (hW.ub 21)
  have e68 := conv_id e68 (hW.ub 19)
  have e69 := conv_id e69 (hW.ub 17)
  have e70 := conv_id e70 (hW.ub 15)
  have e71 := conv_id e71 (hW.ub 13)
  refine ⟨⟨v61, v63, v64, v65, v66, v67, v68, v69, v70, v71⟩, hrun, ?_, ?_⟩
  · exact ⟨Nat.le_trans (hW.ub 10) (by decide), Nat.le_trans (hW.ub 8) (by decide),
      Nat.le_trans (hW.ub 7) (by decide), Nat.le_trans (hW.ub 6) (by decide),
      Nat.le_trans (hW.ub 5) (by decide), Nat.le_trans (hW.ub 4) (by decide),
      Nat.le_trans (hW.ub 3) (by decide), Nat.le_trans (hW.ub 2) (by decide),
      Nat.le_trans (hW.ub 1) (by decide), Nat.le_trans (hW.ub 0) (by decide)⟩
  -- the quotient: 16·t[10..19] from 2^260 = 16·P + .., v59 from 2^256 = P + ..
  · refine mod_of_add_mul (q := 16 * val (2 ^ 26) [v21, v23, v25, v27, v29, v31, v33, v35, v37, v38] + v59) ?_
    have prod : a.val * b.val = val (2 ^ 26)
        [v1, v3, v5, v7, v9, v11, v13, v15, v17, v19, v21, v23, v25, v27, v29, v31, v33, v35, v37, v38] := by
      rw [ph1, e0, L10.val_eq, L10.val_eq]; simp only [L10.toList, val]; ring
    rw [prod]
    subst e65 e66 e67 e68 e69 e70 e71
    simp only [L10.val, val, P] at ph2 ph3 ⊢
    linear_combination ph3 + ph2 + e60 + e39 + 2 ^ 234 * top

theorem square_spec (f a : L10) (hf : f.U32) (ha : a.MagLE 8) :
    ∃ o : L10, Field_SquareVal.runW (f.toList ++ a.toList) = o.toList ∧ o.MagLE 1 ∧
      o.val % P = (a.val * a.val) % P := by
  have h := kernel_steps Field_SquareVal _ _ _ _ ((within_full hf.allLt).append ha.within)
    Field_SquareVal_m8_mid_ok Field_SquareVal_m8_out_ok
  simp only [L10.toList, List.reverse_cons, List.reverse_nil, List.nil_append, List.cons_append] at h
  ir_steps h
  obtain ⟨hW, hrun⟩ := h.out
  -- as `mul2_spec`, the same program but for the columns: only `prod` differs
  have ph1 := carry_step e1 e2 <| carry_step e3 e4 <| carry_step e5 e6 <| carry_step e7 e8 <|
    carry_step e9 e10 <| carry_step e11 e12 <| carry_step e13 e14 <| carry_step e15 e16 <|
    carry_step e17 e18 <| carry_step e19 e20 <| carry_step e21 e22 <| carry_step e23 e24 <|
    carry_step e25 e26 <| carry_step e27 e28 <| carry_step e29 e30 <| carry_step e31 e32 <|
    carry_step e33 e34 <| carry_step e35 e36 <| carry_last e37 e38
  have ph2 := carry_step e40 e41 <| carry_step e42 e43 <| carry_step e44 e45 <| carry_step e46 e47 <|
    carry_step e48 e49 <| carry_step e50 e51 <| carry_step e52 e53 <| carry_step e54 e55 <|
    carry_step e56 e57 (rfl : val _ [v57] = _)
  have top := digit_carry e58 e59
  have ph3 := carry_step e61 e62 <| carry_step e63
    (conv_id e64 (Nat.add_le_add (Nat.div_le_div_right (hW.ub 9)) (hW.ub 27))) (rfl : val _ [v64] = _)
  have e65 := conv_id e65 (hW.ub 25)
  have e66 := conv_id e66 (hW.ub 23)
  have e67 := conv_id e67 (hW.ub 21)
  have e68 := conv_id e68 (hW.ub 19)
  have e69 := conv_id e69 (hW.ub 17)
  have e70 := conv_id e70 (hW.ub 15)
  have e71 := conv_id e71 (hW.ub 13)
  refine ⟨⟨v61, v63, v64, v65, v66, v67, v68, v69, v70, v71⟩, hrun, ?_, ?_⟩
  · exact ⟨Nat.le_trans (hW.ub 10) (by decide), Nat.le_trans (hW.ub 8) (by decide),
      Nat.le_trans (hW.ub 7) (by decide), Nat.le_trans (hW.ub 6) (by decide),
      Nat.le_trans (hW.ub 5) (by decide), Nat.le_trans (hW.ub 4) (by decide),
      Nat.le_trans (hW.ub 3) (by decide), Nat.le_trans (hW.ub 2) (by decide),
      Nat.le_trans (hW.ub 1) (by decide), Nat.le_trans (hW.ub 0) (by decide)⟩
  · refine mod_of_add_mul (q := 16 * val (2 ^ 26) [v21, v23, v25, v27, v29, v31, v33, v35, v37, v38] + v59) ?_
    have prod : a.val * a.val = val (2 ^ 26)
        [v1, v3, v5, v7, v9, v11, v13, v15, v17, v19, v21, v23, v25, v27, v29, v31, v33, v35, v37, v38] := by
      rw [ph1, e0, L10.val_eq]; simp only [L10.toList, val]; ring
    rw [prod]
    subst e65 e66 e67 e68 e69 e70 e71
    simp only [L10.val, val, P] at ph2 ph3 ⊢
    linear_combination ph3 + ph2 + e60 + e39 + 2 ^ 234 * top

end Secp.Proofs.FieldMul
