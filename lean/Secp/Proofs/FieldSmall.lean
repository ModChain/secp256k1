import Secp.Proofs.Radix
/-
  Proofs/FieldSmall — what the proofs of the small field kernels in Props/C05 (everything except
  Mul2 / SquareVal / Normalize) rest on: the limbs of `P` and what `Tight` limbs say about the
  value; consequences of `MagLE` / `U32` and one limb of the limb-wise kernels (Add, NegateVal,
  MulInt); the layout of 32 bytes in ten 26-bit limbs (SetBytes, PutBytesUnchecked).
-/
namespace Secp.Proofs.FieldSmall
open Secp.Spec Secp.IR Secp.Limbs Secp.Radix

theorem P_limbs : P = val (2 ^ 26) [67107887, 67108799, 67108863, 67108863, 67108863, 67108863, 67108863,
    67108863, 67108863, 4194303] := rfl

theorem PmN_limbs : P - N = val (2 ^ 26) [63552238, 57171083, 33309698, 6636253, 21319971, 0, 0, 0, 0, 0] :=
  rfl

theorem _root_.Secp.Limbs.L10.Tight.val_lt {a : L10} (h : a.Tight) : a.val < 2 ^ 256 := by
  simp only [L10.Tight] at h; simp only [L10.val]; omega

theorem _root_.Secp.Limbs.L10.Tight.allLt {a : L10} (h : a.Tight) : AllLt (2 ^ 26) a.toList := by
  obtain ⟨h0, h1, h2, h3, h4, h5, h6, h7, h8, h9⟩ := h
  simp only [AllLt, L10.toList, List.forall_mem_cons, List.not_mem_nil, false_imp_iff, implies_true, and_true]
  exact ⟨h0, h1, h2, h3, h4, h5, h6, h7, h8, Nat.lt_trans h9 (by decide)⟩

theorem _root_.Secp.Limbs.L10.Tight.val_inj {f a : L10} (hf : f.Tight) (ha : a.Tight) :
    f.val = a.val ↔ f.toList = a.toList := by
  rw [L10.val_eq, L10.val_eq]
  exact ⟨Radix.val_inj rfl hf.allLt ha.allLt, fun h => h ▸ rfl⟩

theorem _root_.Secp.Limbs.L10.or_eq_zero (f : L10) :
    f.n0 ||| f.n1 ||| f.n2 ||| f.n3 ||| f.n4 ||| f.n5 ||| f.n6 ||| f.n7 ||| f.n8 ||| f.n9 = 0 ↔ f.val = 0 := by
  simp only [Nat.or_eq_zero_iff, L10.val]; omega

/-- the input certificate of a kernel run on limbs of magnitude ≤ `m`: `KernelSpecs.mag m`, written
    with the `LB`, `LB9` of Core/Limbs (KernelSpecs has its own copies) -/
theorem _root_.Secp.Limbs.L10.MagLE.within {a : L10} {m : Nat} (h : a.MagLE m) :
    Within a.toList [(0, m * LB), (0, m * LB), (0, m * LB), (0, m * LB), (0, m * LB), (0, m * LB),
      (0, m * LB), (0, m * LB), (0, m * LB), (0, m * LB9)] := by
  obtain ⟨h0, h1, h2, h3, h4, h5, h6, h7, h8, h9⟩ := h
  exact ⟨⟨Nat.zero_le _, h0⟩, ⟨Nat.zero_le _, h1⟩, ⟨Nat.zero_le _, h2⟩, ⟨Nat.zero_le _, h3⟩,
    ⟨Nat.zero_le _, h4⟩, ⟨Nat.zero_le _, h5⟩, ⟨Nat.zero_le _, h6⟩, ⟨Nat.zero_le _, h7⟩, ⟨Nat.zero_le _, h8⟩,
    ⟨Nat.zero_le _, h9⟩, trivial⟩

/-- magnitude ≤ 63 is what keeps every limb inside its `uint32` -/
theorem _root_.Secp.Limbs.L10.MagLE.u32 {a : L10} {m : Nat} (h : a.MagLE m) (hm : m ≤ 63) : a.U32 := by
  simp only [L10.MagLE, LB, LB9] at h; simp only [L10.U32]; omega

theorem _root_.Secp.Limbs.L10.U32.wrap {a : L10} (h : a.U32) :
    [a.n0 % 2 ^ 32, a.n1 % 2 ^ 32, a.n2 % 2 ^ 32, a.n3 % 2 ^ 32, a.n4 % 2 ^ 32, a.n5 % 2 ^ 32, a.n6 % 2 ^ 32,
      a.n7 % 2 ^ 32, a.n8 % 2 ^ 32, a.n9 % 2 ^ 32] = a.toList := by
  obtain ⟨h0, h1, h2, h3, h4, h5, h6, h7, h8, h9⟩ := h
  simp only [L10.toList, Nat.mod_eq_of_lt, h0, h1, h2, h3, h4, h5, h6, h7, h8, h9]

theorem _root_.Secp.Limbs.L10.val_add (a b : L10) : (⟨a.n0 + b.n0, a.n1 + b.n1, a.n2 + b.n2, a.n3 + b.n3, a.n4 + b.n4, a.n5 + b.n5,
    a.n6 + b.n6, a.n7 + b.n7, a.n8 + b.n8, a.n9 + b.n9⟩ : L10).val = a.val + b.val := by
  rw [L10.val_eq, L10.val_eq, L10.val_eq]
  exact val_zipWith_add (xs := a.toList) (ys := b.toList) rfl

theorem add_le {x y m k b : Nat} (hx : x ≤ m * b) (hy : y ≤ k * b) : x + y ≤ (m + k) * b :=
  Nat.add_mul .. ▸ Nat.add_le_add hx hy

theorem add_core {a b : L10} {m k : Nat} (hmk : m + k ≤ 63) (ha : a.MagLE m) (hb : b.MagLE k) :
    ∃ o : L10, [(a.n0 + b.n0) % 2 ^ 32, (a.n1 + b.n1) % 2 ^ 32, (a.n2 + b.n2) % 2 ^ 32, (a.n3 + b.n3) % 2 ^ 32,
      (a.n4 + b.n4) % 2 ^ 32, (a.n5 + b.n5) % 2 ^ 32, (a.n6 + b.n6) % 2 ^ 32, (a.n7 + b.n7) % 2 ^ 32,
      (a.n8 + b.n8) % 2 ^ 32, (a.n9 + b.n9) % 2 ^ 32] = o.toList ∧ o.MagLE (m + k) ∧ o.val = a.val + b.val := by
  have hM : (⟨a.n0 + b.n0, a.n1 + b.n1, a.n2 + b.n2, a.n3 + b.n3, a.n4 + b.n4, a.n5 + b.n5, a.n6 + b.n6,
      a.n7 + b.n7, a.n8 + b.n8, a.n9 + b.n9⟩ : L10).MagLE (m + k) := by
    obtain ⟨a0, a1, a2, a3, a4, a5, a6, a7, a8, a9⟩ := ha
    obtain ⟨b0, b1, b2, b3, b4, b5, b6, b7, b8, b9⟩ := hb
    exact ⟨add_le a0 b0, add_le a1 b1, add_le a2 b2, add_le a3 b3, add_le a4 b4, add_le a5 b5, add_le a6 b6,
      add_le a7 b7, add_le a8 b8, add_le a9 b9⟩
  exact ⟨_, (hM.u32 hmk).wrap, hM, L10.val_add a b⟩

theorem mul_le {x m v b : Nat} (hx : x ≤ m * b) : x * v ≤ m * v * b :=
  Nat.mul_right_comm .. ▸ Nat.mul_le_mul_right v hx

/-- one limb of NegateVal: `(m+1)·c − x` at 32 bits, where `c` is the limb of `P` and `x ≤ m·b`; the
    slack `b − c` of the magnitude bound is so small that 63 of it still fit below `c` -/
theorem neg_limb {x m b c : Nat} (hm : m ≤ 63) (hx : x ≤ m * b)
    (h : c ≤ b ∧ 63 * (b - c) ≤ c ∧ 64 * c < 2 ^ 32 := by decide) :
    ((m + 1) % 2 ^ 32 * c % 2 ^ 32 + 2 ^ 32 - x % 2 ^ 32) % 2 ^ 32 = (m + 1) * c - x ∧
      (m + 1) * c - x + x = (m + 1) * c ∧ (m + 1) * c - x ≤ (m + 1) * b := by
  have h1 : m * (b - c) ≤ c := Nat.le_trans (Nat.mul_le_mul_right _ hm) h.2.1
  have h2 : m * b = m * c + m * (b - c) := by rw [← Nat.mul_add, Nat.add_sub_cancel' h.1]
  have h3 : (m + 1) * c ≤ 64 * c := Nat.mul_le_mul_right _ (by omega)
  have h4 : (m + 1) * c ≤ (m + 1) * b := Nat.mul_le_mul_left _ h.1
  have h5 : (m + 1) * c = m * c + c := Nat.succ_mul ..
  rw [Nat.mod_eq_of_lt (by omega : m + 1 < 2 ^ 32)]
  generalize (m + 1) * c = S at *
  omega

/-- 13 bytes are 4 limbs (104 bits); bytes 3, 6 and 9 straddle two limbs -/
theorem bytes13 (c0 c1 c2 c3 c4 c5 c6 c7 c8 c9 c10 c11 c12 : Nat) :
    val 256 [c0, c1, c2, c3, c4, c5, c6, c7, c8, c9, c10, c11, c12] =
    val (2 ^ 26) [c0 + c1 * 2 ^ 8 + c2 * 2 ^ 16 + c3 % 2 ^ 2 * 2 ^ 24,
      c3 / 2 ^ 2 + c4 * 2 ^ 6 + c5 * 2 ^ 14 + c6 % 2 ^ 4 * 2 ^ 22,
      c6 / 2 ^ 4 + c7 * 2 ^ 4 + c8 * 2 ^ 12 + c9 % 2 ^ 6 * 2 ^ 20,
      c9 / 2 ^ 6 + c10 * 2 ^ 2 + c11 * 2 ^ 10 + c12 * 2 ^ 18] := by
  simp only [val]; omega

/-- the last 6 bytes are the two top limbs -/
theorem bytes6 (c0 c1 c2 c3 c4 c5 : Nat) :
    val 256 [c0, c1, c2, c3, c4, c5] =
    val (2 ^ 26) [c0 + c1 * 2 ^ 8 + c2 * 2 ^ 16 + c3 % 2 ^ 2 * 2 ^ 24, c3 / 2 ^ 2 + c4 * 2 ^ 6 + c5 * 2 ^ 14] := by
  simp only [val]; omega

theorem pow104 : (256 : Nat) ^ 13 = (2 ^ 26) ^ 4 := by decide

end Secp.Proofs.FieldSmall
