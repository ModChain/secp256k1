import Secp.Proofs.ScalarLemmas
/-
  Proofs/IRHelpers — the IR primitives `ctEq/ctNe/ctLt/ctLe/ctMin/accAdd` agree with the
  literally translated Go helper bodies (`*_lit` kernels of Gen/ScalarIR) under Go semantics
  (`Kernel.runW`).  This pins the translator's mapping of helper calls to primitives.
-/
namespace Secp.Proofs.IRHelpers
open Secp.IR Secp.Gen Secp.Limbs Secp.Radix Secp.Proofs.IRRun

theorem xor_eq_zero_iff (a b : Nat) : a ^^^ b = 0 ↔ a = b := by
  constructor
  · intro h
    have : a ^^^ (a ^^^ b) = b := by rw [← Nat.xor_assoc, Nat.xor_self, Nat.zero_xor]
    rw [h, Nat.xor_zero] at this
    exact this
  · intro h; subst h; exact Nat.xor_self a

/-- unfold a concrete kernel run -/
macro "unfold_run " k:ident : tactic =>
  `(tactic| simp only [Kernel.runW, $k:ident, runBody, evalW, List.map, List.reverse_cons, List.reverse_nil, List.cons_append,
      List.nil_append, List.getD_cons_succ, List.getD_cons_zero,
      Nat.shiftRight_eq_div_pow, Nat.and_two_pow_sub_one_eq_mod])

theorem b2n_odd (x : Nat) : b2n (x % 2 ^ 1 == 1) = x % 2 := by
  have : x % 2 ^ 1 = 0 ∨ x % 2 ^ 1 = 1 := by omega
  rcases this with h | h <;> rw [h] <;> simp [b2n]

/-- the comparisons are read off the borrow of a 64-bit subtraction: bit 63 of `x − y` for 32-bit
    operands .. -/
theorem borrow {x y : Nat} (hx : x < 2 ^ 32) (hy : y < 2 ^ 32) :
    (x + 2 ^ 64 - y % 2 ^ 64) % 2 ^ 64 / 2 ^ 63 % 2 ^ 32 = if x < y then 1 else 0 := by
  split <;> omega

/-- .. and of `x − y − 1` -/
theorem borrow_le {x y : Nat} (hx : x < 2 ^ 32) (hy : y < 2 ^ 32) :
    ((x + 2 ^ 64 - y % 2 ^ 64) % 2 ^ 64 + 2 ^ 64 - 1 % 2 ^ 64) % 2 ^ 64 / 2 ^ 63 % 2 ^ 32 =
      if x ≤ y then 1 else 0 := by
  split <;> omega

theorem ctEq_lit (a b : Nat) (ha : a < 2 ^ 32) (hb : b < 2 ^ 32) :
    CT_Eq_lit.runW [a, b] = [if a = b then 1 else 0] := by
  unfold_run CT_Eq_lit
  rw [borrow (Nat.xor_lt_two_pow ha hb) (by decide)]
  simp only [Nat.lt_one_iff, xor_eq_zero_iff]

theorem ctNotEq_lit (a b : Nat) (ha : a < 2 ^ 32) (hb : b < 2 ^ 32) :
    CT_NotEq_lit.runW [a, b] = [if a ≠ b then 1 else 0] := by
  unfold_run CT_NotEq_lit
  rw [borrow (Nat.xor_lt_two_pow ha hb) (by decide)]
  simp only [Nat.lt_one_iff, xor_eq_zero_iff]
  split <;> simp [*]

theorem ctLess_lit (a b : Nat) (ha : a < 2 ^ 32) (hb : b < 2 ^ 32) :
    CT_Less_lit.runW [a, b] = [if a < b then 1 else 0] := by
  unfold_run CT_Less_lit
  rw [borrow ha hb]

theorem ctLessOrEq_lit (a b : Nat) (ha : a < 2 ^ 32) (hb : b < 2 ^ 32) :
    CT_LessOrEq_lit.runW [a, b] = [if a ≤ b then 1 else 0] := by
  unfold_run CT_LessOrEq_lit
  rw [borrow_le ha hb]

theorem ctGreater_lit (a b : Nat) (ha : a < 2 ^ 32) (hb : b < 2 ^ 32) :
    CT_Greater_lit.runW [a, b] = [if a > b then 1 else 0] := by
  unfold_run CT_Greater_lit
  rw [borrow hb ha]

theorem ctGreaterOrEq_lit (a b : Nat) (ha : a < 2 ^ 32) (hb : b < 2 ^ 32) :
    CT_GreaterOrEq_lit.runW [a, b] = [if a ≥ b then 1 else 0] := by
  unfold_run CT_GreaterOrEq_lit
  rw [borrow_le hb ha]

theorem ctMin_lit (a b : Nat) (ha : a < 2 ^ 32) (hb : b < 2 ^ 32) :
    CT_Min_lit.runW [a, b] = [min a b] := by
  unfold_run CT_Min_lit
  rw [borrow ha hb]
  congr 1
  split
  · -- the mask is all ones: b ^ (a ^ b) = a
    rw [show (2 ^ 32 - 1 % 2 ^ 32) % 2 ^ 32 = 2 ^ 32 - 1 from by decide,
      Nat.and_two_pow_sub_one_of_lt_two_pow (Nat.xor_lt_two_pow ha hb), Nat.xor_comm a b, ← Nat.xor_assoc,
      Nat.xor_self, Nat.zero_xor]
    omega
  · rw [show (2 ^ 32 - 0 % 2 ^ 32) % 2 ^ 32 = 0 from by decide, Nat.and_zero, Nat.xor_zero]
    omega

/-- `s := x + y; c := constantTimeLess(s, y)` on their two SSA equations: `c` is the carry -/
theorem carry32 {x y s c : Nat} (hx : x < 2 ^ 32) (hy : y < 2 ^ 32) (es : s = (x + y) % 2 ^ 32)
    (ec : c = (s + 2 ^ 64 - y % 2 ^ 64) % 2 ^ 64 / 2 ^ 63 % 2 ^ 32) : c = (x + y) / 2 ^ 32 := by
  rw [ec, es, borrow (Nat.mod_lt _ (by decide)) hy]
  split <;> omega

/-- `accumulator96.Add`: a carry chain of three words, the two carries by `carry32`.  The bound on the
    third word is not needed: it wraps at 2^32 as the sum does at 2^96. -/
theorem acc96Add_lit (n0 n1 n2 v : Nat) (h0 : n0 < 2 ^ 32) (h1 : n1 < 2 ^ 32) (_h2 : n2 < 2 ^ 32)
    (hv : v < 2 ^ 64 - 2 ^ 32) :
    ∃ m0 m1 m2, Acc96_Add_lit.runW [n0, n1, n2, v] = [m0, m1, m2] ∧
      m0 < 2 ^ 32 ∧ m1 < 2 ^ 32 ∧ m2 < 2 ^ 32 ∧
      m0 + m1 * 2 ^ 32 + m2 * 2 ^ 64 = (n0 + n1 * 2 ^ 32 + n2 * 2 ^ 64 + v) % 2 ^ 96 := by
  run_W Acc96_Add_lit [n0, n1, n2, v]
  have c0 := carry32 h0 (digit_lt e0) e2 e3
  have c1 := carry32 h1 (digit_lt e4) e5 e6
  clear e3 e6
  exact ⟨v2, v5, v7, hrun, digit_lt e2, digit_lt e5, digit_lt e7, by omega⟩

theorem acc96Rsh32_lit (n0 n1 n2 : Nat) : Acc96_Rsh32_lit.runW [n0, n1, n2] = [n1, n2, 0] := by
  unfold_run Acc96_Rsh32_lit

theorem ctEq_prim (a b : Nat) (ha : a < 2 ^ 32) (hb : b < 2 ^ 32) :
    CT_Eq_lit.runW [a, b] = [evalW [b, a] (.ctEq (.var 1) (.var 0))] := by
  rw [ctEq_lit a b ha hb]; simp only [evalW, List.getD_cons_succ, List.getD_cons_zero, b2n]
  by_cases h : a = b <;> simp [h]

theorem ctNe_prim (a b : Nat) (ha : a < 2 ^ 32) (hb : b < 2 ^ 32) :
    CT_NotEq_lit.runW [a, b] = [evalW [b, a] (.ctNe (.var 1) (.var 0))] := by
  rw [ctNotEq_lit a b ha hb]; simp only [evalW, List.getD_cons_succ, List.getD_cons_zero, b2n]
  by_cases h : a = b <;> simp [h]

theorem ctLt_prim (a b : Nat) (ha : a < 2 ^ 32) (hb : b < 2 ^ 32) :
    CT_Less_lit.runW [a, b] = [evalW [b, a] (.ctLt (.var 1) (.var 0))] := by
  rw [ctLess_lit a b ha hb]; simp only [evalW, List.getD_cons_succ, List.getD_cons_zero, b2n]
  by_cases h : a < b <;> simp [h]

theorem ctLe_prim (a b : Nat) (ha : a < 2 ^ 32) (hb : b < 2 ^ 32) :
    CT_LessOrEq_lit.runW [a, b] = [evalW [b, a] (.ctLe (.var 1) (.var 0))] := by
  rw [ctLessOrEq_lit a b ha hb]; simp only [evalW, List.getD_cons_succ, List.getD_cons_zero, b2n]
  by_cases h : a ≤ b <;> simp [h]

theorem ctMin_prim (a b : Nat) (ha : a < 2 ^ 32) (hb : b < 2 ^ 32) :
    CT_Min_lit.runW [a, b] = [evalW [b, a] (.ctMin (.var 1) (.var 0))] := by
  rw [ctMin_lit a b ha hb]; simp only [evalW, List.getD_cons_succ, List.getD_cons_zero]

theorem accAdd_prim (n0 n1 n2 v : Nat) (h0 : n0 < 2 ^ 32) (h1 : n1 < 2 ^ 32) (h2 : n2 < 2 ^ 32)
    (hv : v < 2 ^ 64 - 2 ^ 32) :
    ∃ m0 m1 m2, Acc96_Add_lit.runW [n0, n1, n2, v] = [m0, m1, m2] ∧
      m0 < 2 ^ 32 ∧ m1 < 2 ^ 32 ∧ m2 < 2 ^ 32 ∧
      m0 + m1 * 2 ^ 32 + m2 * 2 ^ 64 =
        evalW [v, n0 + n1 * 2 ^ 32 + n2 * 2 ^ 64] (.accAdd (.var 1) (.var 0)) := by
  simp only [evalW, List.getD_cons_succ, List.getD_cons_zero]
  exact acc96Add_lit n0 n1 n2 v h0 h1 h2 hv

end Secp.Proofs.IRHelpers
