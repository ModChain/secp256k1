import Secp.Core.IR
/-
  Proofs/IRIndep — a kernel whose expressions never refer to its first inputs (the receiver
  words that the Go function only overwrites) returns the same outputs whatever those inputs are.
  The syntactic condition is a decidable check on the regenerated kernel.
-/
namespace Secp.Proofs.IRIndep
open Secp.IR

def varsLt (n : Nat) : Expr → Bool
  | .var i => decide (i < n)
  | .const _ => true
  | .add _ a b => varsLt n a && varsLt n b
  | .sub _ a b => varsLt n a && varsLt n b
  | .mul _ a b => varsLt n a && varsLt n b
  | .shr a _ => varsLt n a
  | .shl _ a _ => varsLt n a
  | .low _ a => varsLt n a
  | .and a b => varsLt n a && varsLt n b
  | .or a b => varsLt n a && varsLt n b
  | .xor a b => varsLt n a && varsLt n b
  | .not _ a => varsLt n a
  | .neg _ a => varsLt n a
  | .conv _ a => varsLt n a
  | .eq a b => varsLt n a && varsLt n b
  | .ne a b => varsLt n a && varsLt n b
  | .ctEq a b => varsLt n a && varsLt n b
  | .ctNe a b => varsLt n a && varsLt n b
  | .ctLt a b => varsLt n a && varsLt n b
  | .ctLe a b => varsLt n a && varsLt n b
  | .ctMin a b => varsLt n a && varsLt n b
  | .accAdd a b => varsLt n a && varsLt n b

/-- the j-th body entry only refers to the `n + j` newest environment slots -/
def bodyVarsLt : Nat → List Expr → Bool
  | _, [] => true
  | n, e :: rest => varsLt n e && bodyVarsLt (n + 1) rest

def readsOnlyLast (k : Kernel) (n : Nat) : Bool :=
  bodyVarsLt n k.body && k.outs.all (varsLt (n + k.body.length))

theorem evalW_agree (n : Nat) (env1 env2 : List Nat)
    (h : ∀ i, i < n → env1.getD i 0 = env2.getD i 0) (e : Expr) (hv : varsLt n e = true) :
    evalW env1 e = evalW env2 e := by
  induction e with
  | var i => simp only [varsLt, decide_eq_true_eq] at hv; simp only [evalW]; exact h i hv
  | const c => rfl
  | shr a k ih | shl w a k ih | low k a ih | not w a ih | neg w a ih | conv w a ih =>
    simp only [varsLt] at hv; simp only [evalW, ih hv]
  | add w a b iha ihb | sub w a b iha ihb | mul w a b iha ihb | and a b iha ihb | or a b iha ihb
  | xor a b iha ihb | eq a b iha ihb | ne a b iha ihb | ctEq a b iha ihb | ctNe a b iha ihb
  | ctLt a b iha ihb | ctLe a b iha ihb | ctMin a b iha ihb | accAdd a b iha ihb =>
    simp only [varsLt, Bool.and_eq_true] at hv; simp only [evalW, iha hv.1, ihb hv.2]

theorem runBody_agree (body : List Expr) : ∀ (n : Nat) (env1 env2 : List Nat),
    (∀ i, i < n → env1.getD i 0 = env2.getD i 0) → bodyVarsLt n body = true →
    ∀ i, i < n + body.length →
      (runBody evalW body env1).getD i 0 = (runBody evalW body env2).getD i 0 := by
  induction body with
  | nil => intro n env1 env2 h _ i hi; exact h i hi
  | cons e rest ih =>
    intro n env1 env2 h hb i hi
    simp only [bodyVarsLt, Bool.and_eq_true] at hb
    simp only [runBody]
    refine ih (n + 1) _ _ ?_ hb.2 i (by simp only [List.length_cons] at hi; omega)
    intro j hj
    cases j with
    | zero => simp only [List.getD_cons_zero]; exact evalW_agree n env1 env2 h e hb.1
    | succ j => simp only [List.getD_cons_succ]; exact h j (by omega)

theorem runW_agree (k : Kernel) (n : Nat) (in1 in2 : List Nat)
    (h : ∀ i, i < n → in1.reverse.getD i 0 = in2.reverse.getD i 0)
    (hk : readsOnlyLast k n = true) : k.runW in1 = k.runW in2 := by
  simp only [readsOnlyLast, Bool.and_eq_true, List.all_eq_true] at hk
  simp only [Kernel.runW]
  apply List.map_congr_left
  intro e he
  exact evalW_agree _ _ _ (runBody_agree k.body n _ _ h hk.1) e (hk.2 e he)

theorem runW_prefix (k : Kernel) (pre1 pre2 t : List Nat)
    (hk : readsOnlyLast k t.length = true) : k.runW (pre1 ++ t) = k.runW (pre2 ++ t) := by
  apply runW_agree k t.length _ _ _ hk
  intro i hi
  simp only [List.reverse_append]
  have hl : i < t.reverse.length := by simpa using hi
  simp only [List.getD_eq_getElem?_getD, List.getElem?_append_left hl]

end Secp.Proofs.IRIndep
