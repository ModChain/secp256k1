import Lean
/-
  Proofs/IRNormAttr — the simp set `ir_norm` (with its simproc set `ir_norm_proc`) that
  Proofs/IRNormal fills and uses: an attribute cannot be used in the module that declares it.
-/
register_simp_attr ir_norm
