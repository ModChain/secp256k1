import Secp.Core.IRTactic
import Secp.Proofs.IRNormAttr
/-
  Proofs/IRNormal — the normal form in which `ir_steps` states the SSA equations of a kernel run.
  The two `macro_rules` below take precedence over the rule for `ir_eval_at` in Core/IRTactic, so
  the simp set `ir_norm` defines the shape of every `eN` a kernel proof sees.  `ir_steps` stops at the first
  step that fails, without a message: a rule here that breaks on entry N shows up in the proof as
  "unknown identifier eN".
-/
namespace Secp.IR

/-- `uint32(x & mask26)` and the like -/
theorem mod_pow_mod_pow (x : Nat) {a b : Nat} (h : a ≤ b) : x % 2 ^ a % 2 ^ b = x % 2 ^ a :=
  Nat.mod_mod_of_dvd' (Nat.pow_dvd_pow 2 h)

-- The normal form of one equation, the simp set `ir_norm`.  Sums come out right-nested,
-- `s / B + (column)`, so that `Radix.carry_step` can infer the column by unification; shifts and
-- low-bit masks of the Go semantics come out as `/ 2^k`, `* 2^k`, `% 2^k`, the shape the ideal
-- semantics has; `↓` rewrites a lookup before simp descends into the environment list, whose depth
-- would otherwise exhaust `maxRecDepth`.
attribute [ir_norm ↓] evalN evalW List.getD_cons_succ List.getD_cons_zero
attribute [ir_norm] Nat.add_assoc mod_pow_mod_pow Nat.shiftRight_eq_div_pow Nat.shiftLeft_eq
  Nat.and_two_pow_sub_one_eq_mod
attribute [ir_norm_proc] Nat.reduceLeDiff

macro_rules
  | `(tactic| ir_eval_at $e:ident) => `(tactic| simp only [ir_norm, ir_norm_proc] at $e:ident)

-- `ir_steps` calls `ir_eval_at e` after each `obtain ⟨v, e, h⟩ := h`.  This rule, tried first, also
-- re-binds the environment of the remaining hypothesis, `h : Steps ev rest (v :: env) k`, as a
-- let-variable; `h` is the name every caller of `ir_steps` gives it (also inside the macros `run_N`,
-- `run_W`).  Without it every type at nesting level j of the proof term mentions a list of j
-- elements, and the kernel instantiates it again for each enclosing binder: cubic in the number of
-- entries.  With the let it mentions one identifier; `zetaDelta` lets a lookup see through it.
-- When the hypothesis has another name this rule fails and the one above applies; so it would, silently and
-- at twice the cost, if a name in it did not resolve where it is used (hygiene is off): hence `Secp.IR.Steps`.
set_option hygiene false in
macro_rules
  | `(tactic| ir_eval_at $e:ident) =>
    `(tactic| (simp (config := {zetaDelta := true}) only [ir_norm, ir_norm_proc] at $e:ident
               revert h
               show let env : List Nat := _ :: _; Secp.IR.Steps _ _ env _ → _
               intro env h))

end Secp.IR
