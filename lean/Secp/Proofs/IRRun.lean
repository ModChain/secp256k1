import Secp.Proofs.IRSound
import Secp.Proofs.IRNormal
/-
  Proofs/IRRun — from "the interval analysis accepts this kernel under these
  input bounds" to a `Steps` fact that `ir_steps` can destructure: named
  intermediate values of the *ideal* semantics, their bounds, and the statement
  that the Go semantics (`runW`) returns the ideal outputs.  IRNormal is imported for its
  `macro_rules` only: they fix the shape in which `ir_steps` states the equations, for every file
  that runs a kernel.

  A kernel proof addresses the SSA values by position and nothing else ties it to the Go names:
  `ir_steps` calls the value of entry p (from 0) of the regenerated body (Gen/FieldIR, Gen/ScalarIR)
  `vp` and its equation `ep`, in the order of the Go statements; inside entry p, `.var i` is
  v(p − 1 − i) for i < p, then the inputs, last input first.  When a Go change reorders statements,
  the equations of a `carry_step` chain are paired again (digit `d = s % B`, then sum
  `s' = s / B + x`) from the top sum down, and the `digit_lt eN` follow; when it adds or removes a
  statement, every `eN`, `vN` from there on and every `hW.ub i` shifts by one (`hW.ub i` bounds
  v(last − i): the line "(N SSA values …)" of each proof).  Equations that a proof uses through
  unification need no edit.  The `lean_error` of the check's replay file shows the first mismatch.
-/
namespace Secp.Proofs.IRRun
open Secp.IR Secp.Proofs.IRSound

theorem kernel_steps (k : Kernel) (inputs : List Nat) (βin β' βout : List Ival)
    (hin : Within inputs βin) (hb : bndBody k.body βin.reverse = some β')
    (ho : k.outs.mapM (bnd β') = some βout) :
    Steps evalN k.body inputs.reverse
      (fun env => Done (Within env β' ∧ k.runW inputs = k.outs.map (evalN env))) := by
  obtain ⟨eb, hW⟩ := bndBody_sound k.body βin.reverse β' inputs.reverse (within_reverse inputs βin hin) hb
  refine (steps_iff _ _ _ _).2 (Done.intro ⟨hW, ?_⟩)
  simp only [Kernel.runW, eb]
  exact (outs_sound β' _ hW k.outs βout ho).1

/-- the same for the Go semantics alone, no bounds needed: for the kernels that only shift, mask
    and compare, where nothing can wrap -/
theorem kernel_steps_W (k : Kernel) (inputs : List Nat) :
    Steps evalW k.body inputs.reverse (fun env => Done (k.runW inputs = k.outs.map (evalW env))) :=
  (steps_iff _ _ _ _).2 (Done.intro rfl)

end Secp.Proofs.IRRun
