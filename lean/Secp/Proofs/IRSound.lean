import Secp.Core.IR
/-
  Proofs/IRSound — soundness of the interval analysis `bnd` of Core/IR:
  whenever `bnd` succeeds, the wrap-around semantics `evalW` and the ideal
  semantics `evalN` agree and the value lies in the computed interval.
-/
namespace Secp.Proofs.IRSound
open Secp.IR

theorem lt_two_pow_bits (n : Nat) : n < 2 ^ bits n := by
  unfold bits
  split
  · subst_vars; exact Nat.two_pow_pos _
  · exact Nat.lt_log2_self

theorem lt_two_pow_max {a b ha hb : Nat} (h1 : a ≤ ha) (h2 : b ≤ hb) :
    a < 2 ^ max (bits ha) (bits hb) ∧ b < 2 ^ max (bits ha) (bits hb) :=
  ⟨Nat.lt_of_lt_of_le (Nat.lt_of_le_of_lt h1 (lt_two_pow_bits ha))
      (Nat.pow_le_pow_right (by decide) (Nat.le_max_left _ _)),
    Nat.lt_of_lt_of_le (Nat.lt_of_le_of_lt h2 (lt_two_pow_bits hb))
      (Nat.pow_le_pow_right (by decide) (Nat.le_max_right _ _))⟩

theorem sub_wrap {a b P : Nat} (hba : b ≤ a) (ha : a < P) : (a + P - b % P) % P = a - b := by
  have hb : b % P = b := Nat.mod_eq_of_lt (Nat.lt_of_le_of_lt hba ha)
  rw [hb]
  have : a + P - b = (a - b) + P := by omega
  rw [this, Nat.add_mod_right]
  exact Nat.mod_eq_of_lt (by omega)

theorem within_getElem? : ∀ (env : List Nat) (β : List Ival), Within env β →
    ∀ (i : Nat) (r : Ival), β[i]? = some r → inIval (env.getD i 0) r
  | [], [], _, _, _, h => nomatch h
  | v :: vs, b :: bs, hW, 0, r, h => by cases h; exact hW.1
  | v :: vs, b :: bs, hW, i + 1, r, h => within_getElem? vs bs hW.2 i r h
  | [], _ :: _, hW, _, _, _ | _ :: _, [], hW, _, _, _ => hW.elim

theorem _root_.Secp.IR.Within.append {vs ws : List Nat} {bs cs : List Ival} (h1 : Within vs bs)
    (h2 : Within ws cs) : Within (vs ++ ws) (bs ++ cs) := by
  induction vs generalizing bs with
  | nil => cases bs with
    | nil => exact h2
    | cons => exact h1.elim
  | cons v vs ih => cases bs with
    | nil => exact h1.elim
    | cons b bs => exact ⟨h1.1, ih h1.2⟩

theorem within_reverse : ∀ (env : List Nat) (β : List Ival), Within env β →
    Within env.reverse β.reverse
  | [], [], _ => trivial
  | v :: vs, b :: bs, hW => by
      simp only [List.reverse_cons]
      exact (within_reverse vs bs hW.2).append ⟨hW.1, trivial⟩
  | [], _ :: _, hW | _ :: _, [], hW => hW.elim

/-! Every node of `bnd` has the same shape: bind the operands' intervals, test a guard, return an
interval.  `bind_ih` consumes one operand (its interval, and the induction hypothesis about it);
what is left per operation is the guard and one monotonicity fact. -/

theorem bind_ih {o : Option Ival} {f : Ival → Option Ival} {r : Ival} (h : o.bind f = some r)
    {xW xN : Nat} (ih : ∀ ra, o = some ra → xW = xN ∧ inIval xN ra) :
    ∃ lo hi, xW = xN ∧ lo ≤ xN ∧ xN ≤ hi ∧ f (lo, hi) = some r :=
  let ⟨(lo, hi), ho, hf⟩ := Option.bind_eq_some_iff.mp h
  let ⟨e, hl, hu⟩ := ih _ ho
  ⟨lo, hi, e, hl, hu, hf⟩

theorem inIval_b2n (c : Bool) : inIval (b2n c) (0, 1) := ⟨Nat.zero_le _, by cases c <;> decide⟩

theorem bnd_sound (β : List Ival) (env : List Nat) (hW : Within env β) (e : Expr) (r : Ival)
    (h : bnd β e = some r) : evalW env e = evalN env e ∧ inIval (evalN env e) r := by
  induction e generalizing r with
  | var i => exact ⟨rfl, within_getElem? env β hW i r h⟩
  | const n => cases h; exact ⟨rfl, Nat.le_refl _, Nat.le_refl _⟩
  | neg w a _ => cases h
  -- of `accAdd`'s guard only the first half is used: the second, `hb < 2^64 − 2^32`, is what makes
  -- the word-level Go body exact (`IRHelpers.accAdd_prim`)
  | add w a b iha ihb | accAdd a b iha ihb =>
    obtain ⟨la, ha, ea, hla, hha, h⟩ := bind_ih h iha
    obtain ⟨lb, hb, eb, hlb, hhb, h⟩ := bind_ih h ihb
    obtain ⟨hc, ⟨⟩⟩ := Option.ite_none_right_eq_some.mp h
    simp only [evalW, evalN, ea, eb, inIval]
    refine ⟨Nat.mod_eq_of_lt ?_, ?_, ?_⟩ <;> omega
  | sub w a b iha ihb =>
    obtain ⟨la, ha, ea, hla, hha, h⟩ := bind_ih h iha
    obtain ⟨lb, hb, eb, hlb, hhb, h⟩ := bind_ih h ihb
    obtain ⟨hc, ⟨⟩⟩ := Option.ite_none_right_eq_some.mp h
    simp only [evalW, evalN, ea, eb, inIval]
    refine ⟨sub_wrap ?_ ?_, ?_, ?_⟩ <;> omega
  | mul w a b iha ihb =>
    obtain ⟨la, ha, ea, hla, hha, h⟩ := bind_ih h iha
    obtain ⟨lb, hb, eb, hlb, hhb, h⟩ := bind_ih h ihb
    obtain ⟨hc, ⟨⟩⟩ := Option.ite_none_right_eq_some.mp h
    simp only [evalW, evalN, ea, eb]
    have hmul := Nat.mul_le_mul hha hhb
    exact ⟨Nat.mod_eq_of_lt (Nat.lt_of_le_of_lt hmul hc), Nat.mul_le_mul hla hlb, hmul⟩
  | shr a k iha =>
    obtain ⟨la, ha, ea, hla, hha, h⟩ := bind_ih h iha
    cases h
    simp only [evalW, evalN, ea, Nat.shiftRight_eq_div_pow]
    exact ⟨trivial, Nat.div_le_div_right hla, Nat.div_le_div_right hha⟩
  | shl w a k iha =>
    obtain ⟨la, ha, ea, hla, hha, h⟩ := bind_ih h iha
    obtain ⟨hc, ⟨⟩⟩ := Option.ite_none_right_eq_some.mp h
    simp only [evalW, evalN, ea, Nat.shiftLeft_eq]
    have hmul := Nat.mul_le_mul_right (2 ^ k) hha
    exact ⟨Nat.mod_eq_of_lt (Nat.lt_of_le_of_lt hmul hc), Nat.mul_le_mul_right _ hla, hmul⟩
  | low k a iha | conv k a iha =>
    obtain ⟨la, ha, ea, hla, hha, h⟩ := bind_ih h iha
    simp only [evalW, evalN, ea, Nat.and_two_pow_sub_one_eq_mod, true_and]
    dsimp only at h
    split at h <;> cases h
    · rename_i hc
      rw [Nat.mod_eq_of_lt (Nat.lt_of_le_of_lt hha hc)]
      exact ⟨hla, hha⟩
    · have := Nat.mod_lt (evalN env a) (Nat.two_pow_pos k)
      exact ⟨Nat.zero_le _, by simp only; omega⟩
  | and a b iha ihb =>
    obtain ⟨la, ha, ea, hla, hha, h⟩ := bind_ih h iha
    obtain ⟨lb, hb, eb, hlb, hhb, h⟩ := bind_ih h ihb
    cases h
    simp only [evalW, evalN, ea, eb, true_and]
    exact ⟨Nat.zero_le _, Nat.le_min.mpr
      ⟨Nat.le_trans Nat.and_le_left hha, Nat.le_trans Nat.and_le_right hhb⟩⟩
  | or a b iha ihb | xor a b iha ihb =>
    obtain ⟨la, ha, ea, hla, hha, h⟩ := bind_ih h iha
    obtain ⟨lb, hb, eb, hlb, hhb, h⟩ := bind_ih h ihb
    cases h
    simp only [evalW, evalN, ea, eb, true_and]
    obtain ⟨ba, bb⟩ := lt_two_pow_max hha hhb
    have ho := Nat.or_lt_two_pow ba bb
    have hx := Nat.xor_lt_two_pow ba bb
    exact ⟨Nat.zero_le _, by simp only; omega⟩
  | not w a iha =>
    obtain ⟨la, ha, ea, hla, hha, h⟩ := bind_ih h iha
    obtain ⟨hc, ⟨⟩⟩ := Option.ite_none_right_eq_some.mp h
    simp only [evalW, evalN, ea, inIval]
    rw [Nat.mod_eq_of_lt (Nat.lt_of_le_of_lt hha hc)]
    refine ⟨rfl, ?_, ?_⟩ <;> omega
  | eq a b iha ihb | ne a b iha ihb =>
    obtain ⟨la, ha, ea, -, -, h⟩ := bind_ih h iha
    obtain ⟨lb, hb, eb, -, -, h⟩ := bind_ih h ihb
    cases h
    simp only [evalW, evalN, ea, eb, true_and]
    exact inIval_b2n _
  | ctEq a b iha ihb | ctNe a b iha ihb | ctLt a b iha ihb | ctLe a b iha ihb =>
    obtain ⟨la, ha, ea, -, -, h⟩ := bind_ih h iha
    obtain ⟨lb, hb, eb, -, -, h⟩ := bind_ih h ihb
    obtain ⟨-, ⟨⟩⟩ := Option.ite_none_right_eq_some.mp h
    simp only [evalW, evalN, ea, eb, true_and]
    exact inIval_b2n _
  | ctMin a b iha ihb =>
    obtain ⟨la, ha, ea, hla, hha, h⟩ := bind_ih h iha
    obtain ⟨lb, hb, eb, hlb, hhb, h⟩ := bind_ih h ihb
    obtain ⟨-, ⟨⟩⟩ := Option.ite_none_right_eq_some.mp h
    simp only [evalW, evalN, ea, eb, inIval, true_and]
    refine ⟨?_, ?_⟩ <;> omega

theorem bndBody_sound (body : List Expr) (β β' : List Ival) (env : List Nat) (hW : Within env β)
    (h : bndBody body β = some β') :
    runBody evalW body env = runBody evalN body env ∧ Within (runBody evalN body env) β' := by
  induction body generalizing β env with
  | nil => cases h; exact ⟨rfl, hW⟩
  | cons e rest ih =>
      obtain ⟨r, hr, h⟩ := Option.bind_eq_some_iff.mp h
      obtain ⟨ee, hi⟩ := bnd_sound β env hW e r hr
      simp only [runBody, ee]
      exact ih (r :: β) (evalN env e :: env) ⟨hi, hW⟩ h

theorem outs_sound (β : List Ival) (env : List Nat) (hW : Within env β) (outs : List Expr)
    (βout : List Ival) (h : outs.mapM (bnd β) = some βout) :
    outs.map (evalW env) = outs.map (evalN env) ∧ Within (outs.map (evalN env)) βout := by
  induction outs generalizing βout with
  | nil =>
      simp only [List.mapM_nil, Option.pure_def, Option.some.injEq] at h
      subst h
      exact ⟨rfl, trivial⟩
  | cons e rest ih =>
      simp only [List.mapM_cons, Option.pure_def, Option.bind_eq_bind, Option.bind_eq_some_iff,
        Option.some.injEq] at h
      obtain ⟨r, hr, rs, hrs, h⟩ := h
      subst h
      obtain ⟨ee, hi⟩ := bnd_sound β env hW e r hr
      obtain ⟨er, hrW⟩ := ih rs hrs
      simp only [List.map_cons, ee, er]
      exact ⟨trivial, hi, hrW⟩

/-- the analysis as one call, `Kernel.check`; the kernel proofs take the same two steps apart, with
    the intermediate bounds, in `IRRun.kernel_steps` -/
theorem check_sound (k : Kernel) (βin βout : List Ival) (inputs : List Nat)
    (hin : Within inputs βin) (h : k.check βin = some βout) :
    k.runW inputs = k.runN inputs ∧ Within (k.runN inputs) βout := by
  obtain ⟨β, hβ, h⟩ := Option.bind_eq_some_iff.mp h
  obtain ⟨eb, hW⟩ := bndBody_sound k.body βin.reverse β inputs.reverse
    (within_reverse inputs βin hin) hβ
  simp only [Kernel.runW, Kernel.runN, eb]
  exact outs_sound β _ hW k.outs βout h

end Secp.Proofs.IRSound
