import Secp.Proofs.Radix
/-
  Proofs/Ind — 0/1 indicators: the calculus for the constant-time flags of the kernels, its
  step for compare chains (most significant word first, on `Radix.val`), the last conditional
  subtraction of a reduction.
  `Ind` is a fixed definition of the namespace `Secp.Proofs.ScalarLemmas`: its lemmas and `cond_sub`
  are there with it, and the field proofs open that namespace for this calculus.
-/
namespace Secp.Proofs.ScalarLemmas
open Secp.IR Secp.Radix

def Ind (v : Nat) (p : Prop) : Prop := (v = 1 ∧ p) ∨ (v = 0 ∧ ¬p)

theorem Ind.dec {v : Nat} {p : Prop} [Decidable p] (e : v = b2n (decide p)) : Ind v p := by
  subst e; by_cases h : p <;> simp [Ind, b2n, h]
theorem Ind.beq {v a b : Nat} (e : v = b2n (a == b)) : Ind v (a = b) := Ind.dec e
theorem Ind.bne {v a b : Nat} (e : v = b2n (a != b)) : Ind v (a ≠ b) := by
  subst e; by_cases h : a = b <;> simp [Ind, b2n, h]
theorem Ind.and {v x y : Nat} {p q r : Prop} (e : v = x &&& y) (hx : Ind x p) (hy : Ind y q)
    (h : p ∧ q ↔ r) : Ind v r := by
  subst e; rw [← h]
  rcases hx with ⟨rfl, hp⟩ | ⟨rfl, hp⟩ <;> rcases hy with ⟨rfl, hq⟩ | ⟨rfl, hq⟩ <;> simp [Ind, hp, hq]
theorem Ind.or {v x y : Nat} {p q r : Prop} (e : v = x ||| y) (hx : Ind x p) (hy : Ind y q)
    (h : p ∨ q ↔ r) : Ind v r := by
  subst e; rw [← h]
  rcases hx with ⟨rfl, hp⟩ | ⟨rfl, hp⟩ <;> rcases hy with ⟨rfl, hq⟩ | ⟨rfl, hq⟩ <;> simp [Ind, hp, hq]
theorem Ind.congr {v : Nat} {p q : Prop} (hx : Ind v p) (h : p ↔ q) : Ind v q := by
  rw [← h]; exact hx
theorem Ind.ite {v : Nat} {p : Prop} [Decidable p] (h : Ind v p) : v = if p then 1 else 0 := by
  rcases h with ⟨rfl, hp⟩ | ⟨rfl, hp⟩ <;> simp [hp]
theorem Ind.le_one {v : Nat} {p : Prop} (h : Ind v p) : v ≤ 1 := by
  rcases h with ⟨rfl, _⟩ | ⟨rfl, _⟩ <;> decide
/-- the `return result != 0` that ends the Go functions returning `bool`: `x` is a flag already -/
theorem Ind.ne_zero {v x : Nat} {p : Prop} (h : Ind x p) (e : v = b2n (x != 0)) : Ind v p := by
  rcases h with ⟨rfl, hp⟩ | ⟨rfl, hp⟩ <;> subst e
  · exact Or.inl ⟨by decide, hp⟩
  · exact Or.inr ⟨by decide, hp⟩

/-! One word of a constant-time comparison, most significant word first.
`e` and `g` are the indicators of "equal so far" and "greater so far" on the words `xs` above;
`x` is the next word, `c` the constant's. -/

section
variable {B x c v e g y e' g' : Nat} {xs cs : List Nat}

theorem Ind.lex_eq_top (ev : v = b2n (x == c)) : Ind v (val B [x] = val B [c]) :=
  (Ind.beq ev).congr (by simp only [val, Nat.mul_zero, Nat.add_zero])

theorem Ind.lex_gt_top (ev : v = b2n (decide (c < x))) : Ind v (val B [c] < val B [x]) :=
  (Ind.dec ev).congr (by simp only [val, Nat.mul_zero, Nat.add_zero])

theorem Ind.lex_eq (hx : x < B) (hc : c < B) (he : Ind e (val B xs = val B cs))
    (ev : v = e &&& b2n (x == c)) : Ind v (val B (x :: xs) = val B (c :: cs)) :=
  Ind.and ev he (Ind.beq rfl) (val_cons_eq hx hc).symm

/-- below a word `M = B - 1` of the constant "greater so far" is unchanged -/
theorem Ind.lex_gt_max {M : Nat} (hx : x < B) (hM : M + 1 = B) (hg : Ind g (val B cs < val B xs)) :
    Ind g (val B (M :: cs) < val B (x :: xs)) :=
  hg.congr (val_cons_lt_max hx hM).symm

/-- the first word at which `x` can exceed `c`, not the top one: above it `cs` is all `B - 1`, no
    "greater so far" exists -/
theorem Ind.lex_gt_first (hx : x < B) (hc : c < B) (hle : val B xs ≤ val B cs)
    (he : Ind e (val B xs = val B cs)) (ey : y = b2n (decide (c < x))) (ev : v = e &&& y) :
    Ind v (val B (c :: cs) < val B (x :: xs)) :=
  Ind.and ev he (Ind.dec ey) (by rw [val, val, val_cons_lt hx hc]; omega)

theorem Ind.lex_gt (hx : x < B) (hc : c < B) (hg : Ind g (val B cs < val B xs))
    (he : Ind e (val B xs = val B cs)) (ey : y = b2n (decide (c < x))) (ev : v = g ||| e &&& y) :
    Ind v (val B (c :: cs) < val B (x :: xs)) :=
  Ind.or ev hg (Ind.and rfl he (Ind.dec ey) Iff.rfl) (val_cons_lt hx hc).symm

/-- one word of a chain that tracks both: the new (greater, equal) pair -/
theorem Ind.lex_step (hx : x < B) (hc : c < B) (hg : Ind g (val B cs < val B xs))
    (he : Ind e (val B xs = val B cs)) (ey : y = b2n (decide (c < x))) (eg : g' = g ||| e &&& y)
    (ee : e' = e &&& b2n (x == c)) :
    Ind g' (val B (c :: cs) < val B (x :: xs)) ∧ Ind e' (val B (x :: xs) = val B (c :: cs)) :=
  ⟨Ind.lex_gt hx hc hg he ey eg, Ind.lex_eq hx hc he ee⟩

theorem Ind.lex_ge (hx : x < B) (hc : c < B) (hg : Ind g (val B cs < val B xs))
    (he : Ind e (val B xs = val B cs)) (ey : y = b2n (decide (c ≤ x))) (ev : v = g ||| e &&& y) :
    Ind v (val B (c :: cs) ≤ val B (x :: xs)) :=
  Ind.or ev hg (Ind.and rfl he (Ind.dec ey) Iff.rfl) (val_cons_le hx hc).symm

end

/-- `N` is the modulus (the group order, or `P` in Normalize) and `K = 2^256 − N`.  `W` is the
    256-bit value to reduce, `c` its carry into bit 256 (so `S = W + c·2^256 < 2N` is what it
    stands for), `o = [W ≥ N]` the overflow flag.  The code adds `(c + o)·K` and drops the carry
    `c'`: that subtracts `(c + o)·N` and leaves the canonical `R`. -/
theorem cond_sub {N K S W R c c' o : Nat} (hK : N + K = 2 ^ 256) (hS : S < N + N) (hR : R < 2 ^ 256)
    (hc : W + c * 2 ^ 256 = S) (ho : Ind o (W ≥ N)) (hr : R + c' * 2 ^ 256 = W + (c + o) * K) :
    R + (c + o) * N = S ∧ R < N := by
  have hc01 : c = 0 ∨ c = 1 := by omega
  rcases hc01 with rfl | rfl <;> rcases ho with ⟨rfl, h⟩ | ⟨rfl, h⟩ <;> omega

end Secp.Proofs.ScalarLemmas
