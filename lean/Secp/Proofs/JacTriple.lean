import Secp.Model.PointSpec
/-
  Proofs/JacTriple — what can be said of a Jacobian triple and of `Jac.toPt` without field theory:
  the identity encodings, the bounds, and the affine point of a finite triple.  Below both the
  protocol proofs (Ecdsa, Schnorr, Adaptor) and `Proofs/ScalarMultJac.lean`, which adds the
  representation relation in `ZMod P`.  Core-only.
-/
-- under the namespace of the point-operation proofs, which cite these together with `ScalarMultJac`'s
namespace Secp.Proofs.PointOps
open Secp.Spec Secp.Model

/-- the three coordinates are reduced: `Jac.WF` without the curve equation -/
def Bnd (q : Jac) : Prop := q.1 < P ∧ q.2.1 < P ∧ q.2.2 < P

theorem Bnd_of_WF {q : Jac} (h : Jac.WF q) : Bnd q := ⟨h.1, h.2.1, h.2.2.1⟩

theorem mod_P_lt (a : Nat) : a % P < P := Nat.mod_lt _ (by decide)

theorem Bnd.mod (a b c : Nat) : Bnd (a % P, b % P, c % P) := ⟨mod_P_lt a, mod_P_lt b, mod_P_lt c⟩

theorem fin_iff {X Y Z : Nat} : isInfJ (X, Y, Z) = false ↔ ¬ (X = 0 ∧ Y = 0) ∧ Z ≠ 0 := by
  simp [isInfJ]

theorem toPt_of_inf {q : Jac} (h : isInfJ q = true) : Jac.toPt q = none := by
  obtain ⟨X, Y, Z⟩ := q
  have h' : (X = 0 ∧ Y = 0) ∨ Z = 0 := by simpa [isInfJ] using h
  unfold Jac.toPt
  rw [if_pos]
  rcases h' with ⟨rfl, rfl⟩ | rfl
  · exact Or.inr ⟨Nat.zero_mod _, Nat.zero_mod _⟩
  · exact Or.inl (Nat.zero_mod _)

theorem WF_of_inf {q : Jac} (hb : Bnd q) (h : isInfJ q = true) : Jac.WF q :=
  ⟨hb.1, hb.2.1, hb.2.2, Or.inl h⟩

theorem toPt_of_not_inf (q : Jac) (hq : Jac.WF q) (hi : isInfJ q = false) :
    Jac.toPt q = some (fmul q.1 (fsq (finv q.2.2)),
      fmul q.2.1 (fmul (fsq (finv q.2.2)) (finv q.2.2))) := by
  obtain ⟨X, Y, Z⟩ := q
  obtain ⟨hxy, hz⟩ := fin_iff.1 hi
  unfold Jac.toPt
  rw [if_neg]
  simp only [Nat.mod_eq_of_lt hq.1, Nat.mod_eq_of_lt hq.2.1, Nat.mod_eq_of_lt hq.2.2.1]
  exact fun h => h.elim hz hxy

/-- a well-formed triple is the identity, or finite with the affine coordinates `ToAffine` returns -/
theorem toPt_cases (hp : PointSpec) (q : Jac) (hq : Jac.WF q) :
    (isInfJ q = true ∧ Jac.toPt q = none) ∨
      ∃ x y, isInfJ q = false ∧ Jac.toPt q = some (x, y) ∧ toAffineJ q = (x, y, 1) := by
  cases hi : isInfJ q with
  | true => exact .inl ⟨rfl, toPt_of_inf hi⟩
  | false => exact .inr ⟨_, _, rfl, toPt_of_not_inf q hq hi, hp.toAffine q _ _ hq (toPt_of_not_inf q hq hi)⟩

theorem toPt_none_iff (q : Jac) (hq : Jac.WF q) : Jac.toPt q = none ↔ isInfJ q = true := by
  refine ⟨fun h => ?_, toPt_of_inf⟩
  cases hi : isInfJ q with
  | true => rfl
  | false => rw [toPt_of_not_inf q hq hi] at h; cases h

theorem toPt_some_lt {q : Jac} {x y : Nat} (h : Jac.toPt q = some (x, y)) : x < P ∧ y < P := by
  unfold Jac.toPt at h
  split at h
  · cases h
  · simp only [Option.some.injEq, Prod.mk.injEq] at h
    obtain ⟨rfl, rfl⟩ := h
    exact ⟨mod_P_lt _, mod_P_lt _⟩

end Secp.Proofs.PointOps
