import Secp.Proofs.IRRun
import Secp.Gen.Bounds
import Secp.Proofs.Radix
import Secp.Proofs.Mul512Lemmas
import Mathlib.Tactic.LinearCombination
/-
  Proofs/Mul512 — curve.go's mul512Rsh320Round, as REGENERATED by tools/gotr T1 (`Gen.Scalar_mul512Rsh320Round`,
  Go wrap-around semantics, math/bits intrinsics with their documented 128-bit meaning), computes
  ⌊(n1·n2 + 2^319) / 2^320⌋ for EVERY pair of 8-word operands: the rounded 320-bit right shift that splitK uses
  for its estimates c1, c2.  No intermediate value wraps (interval certificate of Gen/Bounds), the dropped
  carries are provably zero, and the rounding increment propagates through all three result digits.
-/
namespace Secp.Proofs.Mul512
open Secp.IR Secp.Gen Secp.Gen.Bounds Secp.Proofs.IRRun Secp.Limbs Secp.Radix Secp.Proofs.Mul512Lemmas

theorem mul512_spec (a b : L8) (ha : a.U32) (hb : b.U32) :
    ∃ r : L8, Scalar_mul512Rsh320Round.runW (a.toList ++ b.toList) = r.toList ∧ r.U32 ∧
      r.val = (a.val * b.val + 2 ^ 319) / 2 ^ 320 := by
  have hin : Within (a.toList ++ b.toList) Scalar_mul512Rsh320Round_full_in :=
    (within_full ha.allLt).append (within_full hb.allLt)
  have h := kernel_steps Scalar_mul512Rsh320Round _ _ _ _ hin Scalar_mul512Rsh320Round_full_mid_ok
    Scalar_mul512Rsh320Round_full_out_ok
  simp only [L8.toList, List.reverse_cons, List.reverse_nil, List.nil_append, List.cons_append] at h
  ir_steps h
  obtain ⟨hW, hrun⟩ := h.out
  clear h hin
  -- the operands as four 64-bit digits each: A = v0..v3, B = v4..v7
  have hA := digits _ _ _ _ _ _ _ _ _ _ _ _ (e0.trans (or_shift _ _ 32 ha.1))
    (e1.trans (or_shift _ _ 32 ha.2.2.1)) (e2.trans (or_shift _ _ 32 ha.2.2.2.2.1))
    (e3.trans (or_shift _ _ 32 ha.2.2.2.2.2.2.1))
  have hB := digits _ _ _ _ _ _ _ _ _ _ _ _ (e4.trans (or_shift _ _ 32 hb.1))
    (e5.trans (or_shift _ _ 32 hb.2.2.1)) (e6.trans (or_shift _ _ 32 hb.2.2.2.2.1))
    (e7.trans (or_shift _ _ 32 hb.2.2.2.2.2.2.1))
  -- (218 SSA values: `hW.ub i` bounds v(217 − i))
  -- row 0: b₀·A, digit by digit.  `addc` takes the two-digit product with its bound, then the addend's
  have r00 := digit_carry e10 e9
  have r01 := addc ⟨digit_carry e13 e12, hW.ub 206⟩ e14 e15 e16 e17 e18 (hW.ub 208)
  have r02 := addc ⟨digit_carry e22 e21, hW.ub 197⟩ e23 e24 e25 e26 e27 (hW.ub 199)
  have r03 := addc ⟨digit_carry e31 e30, hW.ub 188⟩ e32 e33 e34 e35 e36 (hW.ub 190)
  -- row 1: b₁·A added to the upper digits of row 0.  From r11 on two `addc` per column:
  -- `mulAdd64Carry` adds the digit of the row above and the carry-in to one product
  have r10 := addc ⟨digit_carry e40 e39, hW.ub 179⟩ e41 e42 e43 e44 e45 (hW.ub 202)
  have r11 := addc (addc ⟨digit_carry e49 e48, hW.ub 170⟩ e50 e51 e52 e53 e54 (hW.ub 193))
    e56 e57 e58 e59 e60 (hW.ub 172)
  have r12 := addc (addc ⟨digit_carry e64 e63, hW.ub 155⟩ e65 e66 e67 e68 e69 (hW.ub 184))
    e71 e72 e73 e74 e75 (hW.ub 157)
  have r13 := addc (addc ⟨digit_carry e79 e78, hW.ub 140⟩ e80 e81 e82 e83 e84 (hW.ub 181))
    e86 e87 e88 e89 e90 (hW.ub 142)
  -- row 2: b₂·A added to the upper digits of row 1
  have r20 := addc ⟨digit_carry e94 e93, hW.ub 125⟩ e95 e96 e97 e98 e99 (hW.ub 160)
  have r21 := addc (addc ⟨digit_carry e103 e102, hW.ub 116⟩ e104 e105 e106 e107 e108 (hW.ub 145))
    e110 e111 e112 e113 e114 (hW.ub 118)
  have r22 := addc (addc ⟨digit_carry e118 e117, hW.ub 101⟩ e119 e120 e121 e122 e123 (hW.ub 130))
    e125 e126 e127 e128 e129 (hW.ub 103)
  have r23 := addc (addc ⟨digit_carry e133 e132, hW.ub 86⟩ e134 e135 e136 e137 e138 (hW.ub 127))
    e140 e141 e142 e143 e144 (hW.ub 88)
  -- row 3: b₃·A added to the upper digits of row 2
  have r30 := addc ⟨digit_carry e148 e147, hW.ub 71⟩ e149 e150 e151 e152 e153 (hW.ub 106)
  have r31 := addc (addc ⟨digit_carry e157 e156, hW.ub 62⟩ e158 e159 e160 e161 e162 (hW.ub 91))
    e164 e165 e166 e167 e168 (hW.ub 64)
  have r32 := addc (addc ⟨digit_carry e172 e171, hW.ub 47⟩ e173 e174 e175 e176 e177 (hW.ub 76))
    e179 e180 e181 e182 e183 (hW.ub 49)
  have r33 := addc (addc ⟨digit_carry e187 e186, hW.ub 32⟩ e188 e189 e190 e191 e192 (hW.ub 73))
    e194 e195 e196 e197 e198 (hW.ub 34)
  -- the product: four dropped digits v10, v42, v96, v150, then v165 (rounding bit on top), v180, v195, v198
  have hR : a.val * b.val = v10 + 2 ^ 64 * (v42 + 2 ^ 64 * (v96 + 2 ^ 64 * (v150 + 2 ^ 64 * (v165 + 2 ^ 64 *
      val (2 ^ 64) [v180, v195, v198])))) := by
    simp only [L8.val, val]
    rw [hA, hB]
    subst e8 e11 e20 e29 e38 e47 e62 e77 e92 e101 e116 e131 e146 e155 e170 e185
    refine Eq.symm ?_
    linear_combination r00 + 2 ^ 64 * r01.1 + 2 ^ 128 * r02.1 + 2 ^ 192 * r03.1 +
      2 ^ 64 * (r10.1 + 2 ^ 64 * r11.1 + 2 ^ 128 * r12.1 + 2 ^ 192 * r13.1) +
      2 ^ 128 * (r20.1 + 2 ^ 64 * r21.1 + 2 ^ 128 * r22.1 + 2 ^ 192 * r23.1) +
      2 ^ 192 * (r30.1 + 2 ^ 64 * r31.1 + 2 ^ 128 * r32.1 + 2 ^ 192 * r33.1)
  rw [hR, combine rfl (digit_lt e10) (digit_lt e42) (digit_lt e96) (digit_lt e150) (digit_lt e165)]
  -- the rounding bit v200 carried through the three upper digits, then eight 32-bit words
  have F := carry_step e202 (carry_in e204 e203) <| carry_step e205 (carry_in e207 e206) <| carry_last e208 e209
  obtain ⟨s0, w0, w1⟩ := word64_split e210 e211 (digit_lt e202)
  obtain ⟨s1, w2, w3⟩ := word64_split e212 e213 (digit_lt e205)
  obtain ⟨s2, w4, w5⟩ := word64_split e214 e215 (digit_lt e208)
  obtain ⟨s3, w6, w7⟩ := word64_split e216 e217 (Nat.lt_of_le_of_lt (hW.ub 8) (by decide))
  refine ⟨⟨v210, v211, v212, v213, v214, v215, v216, v217⟩, hrun, ⟨w0, w1, w2, w3, w4, w5, w6, w7⟩, ?_⟩
  rw [L8.val, digits _ _ _ _ _ _ _ _ _ _ _ _ s0 s1 s2 s3]
  simp only [val] at F ⊢
  linear_combination F + e201 + e200

end Secp.Proofs.Mul512
