/-
  Proofs/Mul512Lemmas — the arithmetic steps of curve.go's mul512Rsh320Round on 64-bit digits, as
  lemmas on plain naturals: a third digit added to a two-digit number the way `bits.Add64` is used
  twice (`addc`, which cannot overflow because `(2^64−1)² + 2·(2^64−1) < 2^128`), a 64-bit digit
  as two words, the rounding (`combine`).  Core Lean only: `digits` is stated without Mathlib's
  instances in scope.
-/
namespace Secp.Proofs.Mul512Lemmas

/-- `lo, c = Add64(lo, t, 0); hi, _ = Add64(hi, 0, c)` adds `t` to the two-digit number `(lo, hi)`;
    the dropped carry is zero as long as the sum stays below `2^128` -/
theorem addc {lo hi t s r c g h Y bY bt : Nat} (hY : lo + 2 ^ 64 * hi = Y ∧ Y ≤ bY)
    (es : s = lo + (t + 0)) (er : r = s % 2 ^ 64) (ec : c = s / 2 ^ 64) (eg : g = hi + (0 + c))
    (eh : h = g % 2 ^ 64) (htb : t ≤ bt) (hb : bY + bt < 2 ^ 64 * 2 ^ 64 := by decide) :
    r + 2 ^ 64 * h = Y + t ∧ Y + t ≤ bY + bt := by
  omega

/-- the same two calls in the shape of a carry-chain step: `s' = x + (0 + s / B)` -/
theorem carry_in {s' x u c : Nat} (e : s' = x + (0 + u)) (eu : u = c) : s' = c + x := by
  rw [e, eu, Nat.zero_add, Nat.add_comm]

theorem word64_split {w lo hi : Nat} (elo : lo = w % 2 ^ 32) (ehi : hi = w / 2 ^ 32 % 2 ^ 32) (hw : w < 2 ^ 64) :
    w = lo + hi * 2 ^ 32 ∧ lo < 2 ^ 32 ∧ hi < 2 ^ 32 := by
  omega

/-- the rounded shift of a product given by its four dropped digits `l`, the digit `r4` that holds
    the rounding bit, and the rest `hi` -/
theorem combine {R l0 l1 l2 l3 r4 hi : Nat}
    (hR : R = l0 + 2 ^ 64 * (l1 + 2 ^ 64 * (l2 + 2 ^ 64 * (l3 + 2 ^ 64 * (r4 + 2 ^ 64 * hi)))))
    (b0 : l0 < 2 ^ 64) (b1 : l1 < 2 ^ 64) (b2 : l2 < 2 ^ 64) (b3 : l3 < 2 ^ 64) (br : r4 < 2 ^ 64) :
    (R + 2^319) / 2^320 = hi + r4 / 2^63 := by
  omega

theorem digits (x0 x1 x2 x3 x4 x5 x6 x7 d0 d1 d2 d3 : Nat)
    (e0 : d0 = x0 + x1 * 2^32) (e1 : d1 = x2 + x3 * 2^32) (e2 : d2 = x4 + x5 * 2^32) (e3 : d3 = x6 + x7 * 2^32) :
    x0 + x1 * 2^32 + x2 * 2^64 + x3 * 2^96 + x4 * 2^128 + x5 * 2^160 + x6 * 2^192 + x7 * 2^224 = d0 + d1 * 2^64 + d2 * 2^128 + d3 * 2^192 := by
  omega

end Secp.Proofs.Mul512Lemmas
