import Secp.Model.Nonce
import Secp.Proofs.Buffers
/-
  Proofs/Nonce — the `HmacObj` state machine refines RFC 2104 HMAC-SHA256 (`keyed` and the five method equations),
  and the generation loop of `nonceM` is the loop of the RFC 6979 generator (`nonceLoop_spec`); `C10.nonce_spec` puts
  the prelude before it.  SHA-256 is used as an opaque function except for one fact: its output has 32 bytes.
  At the end, in namespace `DriversHmac`: the methods keep the two pads 64 bytes long.
-/
namespace Secp.Proofs.Nonce
open Secp.Spec Secp.Model

theorem compress_size (h : Array UInt32) (b : Bytes) : (compress h b).size = 8 := by
  unfold compress
  simp only [Id.run, bind, pure]
  -- whatever the 64 rounds compute, the result is a literal 8-element array of projections of the loop state
  rfl

theorem sha256Blocks_size : ∀ (n : Nat) (h : Array UInt32) (m : Bytes), h.size = 8 →
    (sha256Blocks n h m).size = 8
  | 0, _, _, hh => hh
  | n+1, _, _, _ => sha256Blocks_size n _ _ (compress_size _ _)

theorem flatMap_wordBytes_length (l : List UInt32) :
    (l.flatMap wordBytes).length = 4 * l.length := by
  induction l with
  | nil => rfl
  | cons a l ih => simp [List.flatMap_cons, ih, wordBytes]; omega

theorem sha256_length (m : Bytes) : (sha256 m).length = 32 := by
  unfold sha256
  simp only [flatMap_wordBytes_length, Array.length_toList]
  rw [sha256Blocks_size _ _ _ rfl]

theorem hmacSha256_length (k d : Bytes) : (hmacSha256 k d).length = 32 := sha256_length _

/-- the RFC 2104 inner / outer pads of a key -/
def pad36 (k : Bytes) : Bytes := (hmacKeyBlock k).map (· ^^^ 0x36)
def pad5c (k : Bytes) : Bytes := (hmacKeyBlock k).map (· ^^^ 0x5c)

theorem hmacSha256_eq (k d : Bytes) :
    hmacSha256 k d = sha256 (pad5c k ++ sha256 (pad36 k ++ d)) := rfl

/-
  Every object the code builds is `keyed k d o`: it carries the pads of the key `k` it was last keyed with, its inner
  hash has absorbed `ipad ‖ d`, and `o` is what its outer hash was last fed (never read again).  The five methods
  act on this form by the equations below; a run of the object is computed by rewriting with them. -/

def keyed (k d o : Bytes) : HmacObj := { inner := pad36 k ++ d, outer := o, ipad := pad36 k, opad := pad5c k }

theorem hmacKeyBlock_short (key : Bytes) (hk : key.length ≤ 64) :
    hmacKeyBlock key = key ++ List.replicate (64 - key.length) 0 := by
  unfold hmacKeyBlock
  rw [if_neg (by omega)]

theorem hmacNew_eq (k : Bytes) (hk : k.length ≤ 64) : hmacNew k = keyed k [] [] := by
  unfold hmacNew HmacObj.initKey keyed pad36 pad5c
  simp only [if_neg (Nat.not_lt.2 hk), List.nil_append, List.append_nil, Buffers.copyInto_zeros k hk,
    hmacKeyBlock_short k hk]

theorem resetKey_eq (h : HmacObj) (k : Bytes) (hk : k.length ≤ 64) : h.resetKey k = keyed k [] [] :=
  hmacNew_eq k hk

theorem keyed_write (k d o p : Bytes) : (keyed k d o).write p = keyed k (d ++ p) o := by
  simp only [keyed, HmacObj.write, List.append_assoc]

theorem keyed_reset (k d o : Bytes) : (keyed k d o).reset = keyed k [] o := by
  simp only [keyed, HmacObj.reset, List.append_nil]

theorem keyed_sum (k d o : Bytes) :
    (keyed k d o).sum = (hmacSha256 k d, keyed k d (pad5c k ++ sha256 (pad36 k ++ d))) := rfl

theorem candidate_test (t : Bytes) (ht : t.length = 32) :
    (!(scalarSetByteSlice t).2 && (scalarSetByteSlice t).1 != 0) = decide (0 < beNat t ∧ beNat t < N) ∧
    (beNat t < N → (scalarSetByteSlice t).1 = beNat t) := by
  rw [Buffers.scalarSetByteSlice_of_le t (Nat.le_of_eq ht)]
  by_cases hc : beNat t ≥ N
  · simp [hc]; omega
  · have h : beNat t < N := Nat.not_le.1 hc
    by_cases h0 : beNat t = 0 <;> simp [hc, h, h0, Nat.pos_iff_ne_zero]

theorem hmacSha256_length_le_64 (k d : Bytes) : (hmacSha256 k d).length ≤ 64 := by rw [hmacSha256_length]; omega

theorem nonceLoop_spec : ∀ (fuel : Nat) (k d o v : Bytes) (g e : Nat), g ≤ e →
    nonceLoop fuel (keyed k d o) v g e = drbgNonce hmacSha256 fuel ⟨k, v⟩ (e - g)
  | 0, _, _, _, _, _, _, _ => rfl
  | fuel+1, k, d, o, v, g, e, hge => by
    obtain ⟨hok, hsec⟩ := candidate_test (hmacSha256 k v) (hmacSha256_length _ _)
    unfold nonceLoop drbgNonce
    -- the run of the object: candidate, retry key, retry value
    simp only [drbgNext, drbgRetry, keyed_reset, keyed_write, keyed_sum, List.nil_append,
      resetKey_eq _ _ (hmacSha256_length_le_64 _ _), hok]
    by_cases hc : 0 < beNat (hmacSha256 k v) ∧ beNat (hmacSha256 k v) < N
    · simp only [hc, and_self, decide_true, if_true, Bool.true_and, decide_eq_true_eq, hsec hc.2]
      by_cases hs : e - g = 0
      · rw [if_pos (by omega), if_pos hs]
      · rw [if_neg (by omega), if_neg hs, nonceLoop_spec fuel _ _ _ _ (g + 1) e (by omega),
          show e - (g + 1) = e - g - 1 by omega]
    · simp only [hc, decide_false, if_false, Bool.false_and, Bool.false_eq_true]
      exact nonceLoop_spec fuel _ _ _ _ g e hge

theorem drbgNonce_range (H : HmacFn) : ∀ (fuel : Nat) (s : DrbgState) (skip k : Nat),
    drbgNonce H fuel s skip = some k → 0 < k ∧ k < N
  | 0, _, _, _, h => by simp [drbgNonce] at h
  | fuel+1, s, skip, k, h => by
    unfold drbgNonce at h
    simp only at h
    split at h
    · rename_i hc
      split at h
      · cases h; exact hc
      · exact drbgNonce_range H fuel _ _ _ h
    · exact drbgNonce_range H fuel _ _ _ h

end Secp.Proofs.Nonce

-- the pad invariant of the `hmacsha256` object, in the namespace of the theorems on its regenerated methods
-- (Proofs/DriversNonce.lean), whose hypotheses it discharges
namespace Secp.Proofs.DriversHmac
open Secp.Spec Secp.Model Secp.Proofs.Buffers

theorem pads_initKey (h : HmacObj) (key : Bytes) :
    (h.initKey key).ipad.length = h.ipad.length ∧ (h.initKey key).opad.length = h.opad.length := by
  unfold HmacObj.initKey
  by_cases hk : key.length > 64 <;> simp [hk, copyInto_length]

theorem pads_hmacNew (key : Bytes) :
    (hmacNew key).ipad.length = 64 ∧ (hmacNew key).opad.length = 64 := by
  unfold hmacNew
  have := pads_initKey { inner := [], outer := [], ipad := zeros 64, opad := zeros 64 } key
  simpa [zeros] using this

theorem pads_write (h : HmacObj) (p : Bytes)
    (hp : h.ipad.length = 64 ∧ h.opad.length = 64) :
    (h.write p).ipad.length = 64 ∧ (h.write p).opad.length = 64 := hp

theorem pads_reset (h : HmacObj) (hp : h.ipad.length = 64 ∧ h.opad.length = 64) :
    h.reset.ipad.length = 64 ∧ h.reset.opad.length = 64 := hp

theorem pads_resetKey (h : HmacObj) (key : Bytes) :
    (h.resetKey key).ipad.length = 64 ∧ (h.resetKey key).opad.length = 64 :=
  pads_hmacNew key

theorem pads_sum (h : HmacObj) (hp : h.ipad.length = 64 ∧ h.opad.length = 64) :
    h.sum.2.ipad.length = 64 ∧ h.sum.2.opad.length = 64 := hp

end Secp.Proofs.DriversHmac
