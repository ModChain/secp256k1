import Secp.Proofs.PointOpsAdd
import Secp.Proofs.PointOpsDispatch
import Secp.Proofs.PointOpsDbl
/-
  Proofs/PointOps — C04: the regenerated point routines (AddNonConst in its three aliasing
  patterns, DoubleNonConst in its two) compute the affine group law of `Spec.Curve` on the points
  their Jacobian operands represent, and preserve `Jac.WF` (`add_call`; `doubleNonConst_contract`
  is in PointOpsDbl); then the bridge from an answered call to the model functions that wrap a
  named entry (`addNC`, `addNC3`, `addNCr2`: the `*_of_run` lemmas; those of `dblNC`, `dblNC3` are
  in PointOpsDbl).
  The seven files in the order of their imports: PointOpsBase and PointOpsField, then
  PointOpsContract, then PointOpsAdd and PointOpsDbl; PointOpsDispatch needs PointOpsBase only;
  this file needs Add, Dbl and Dispatch.
-/

namespace Secp.Proofs.PointOps
open Secp.Spec Secp.Model Secp.FOp

theorem Pt_add_none_left (p : Pt) : Pt.add none p = p := by
  cases p <;> rfl

theorem Pt_add_none_right (p : Pt) : Pt.add p none = p := by
  cases p <;> rfl

/-- AddNonConst returns, in all three layouts, one and the same well-formed triple representing the sum.
    Call depth, counted down from the 8 that `Model.runNamed` starts with: AddNonConst 8, the add
    routine it selects 7, the DoubleNonConst that routine calls on equal operands 6, the double routine
    5 (`doubleNonConst_contract 4` is the statement at depth 4 + 2). -/
theorem add_call (q p : Jac) (hq : Jac.WF q) (hp : Jac.WF p) :
    ∃ r, (∀ a, AddCall a 8 iAddNonConst q p r) ∧ AddOK q p r := by
  cases hqf : isInfJ q with
  | true =>
    refine ⟨p, fun a j => (addNonConst_run a 7 q p j).1 hqf, ?_⟩
    unfold AddOK
    rw [toPt_of_inf hqf, Pt_add_none_left]
    exact ⟨hp, rfl⟩
  | false =>
    cases hpf : isInfJ p with
    | true =>
      refine ⟨q, fun a j => (addNonConst_run a 7 q p j).2.1 hqf hpf, ?_⟩
      unfold AddOK
      rw [toPt_of_inf hpf, Pt_add_none_right]
      exact ⟨hq, rfl⟩
    | false =>
      have routine : ∀ {Pre : Nat → Nat → Prop} {k : Nat} (_ : sel q.2.2 p.2.2 = k)
          (_ : AddContract Pre (fun q p r => ∀ a, AddCall a 7 k q p r)
            (fun q r => ∀ b, DblCall b 6 iDoubleNonConst q r))
          (_ : Pre q.2.2 p.2.2), ∃ r, (∀ a, AddCall a 8 iAddNonConst q p r) ∧ AddOK q p r := by
        intro Pre k hk hA hpre
        subst hk
        obtain ⟨r, hrun, hok⟩ := add_of_contract hA (doubleNonConst_contract 4) q p hq hp hqf hpf hpre
        exact ⟨r, fun a j => (addNonConst_run a 7 q p j).2.2 hqf hpf r (hrun a j), hok⟩
      by_cases h11 : q.2.2 = 1 ∧ p.2.2 = 1
      · exact routine (if_pos h11) (addZ1AndZ2EqualsOne_contract 6) h11
      by_cases hzz : q.2.2 = p.2.2
      · exact routine ((if_neg h11).trans (if_pos hzz)) (addZ1EqualsZ2_contract 6) hzz
      by_cases hz2 : p.2.2 = 1
      · exact routine ((if_neg h11).trans ((if_neg hzz).trans (if_pos hz2))) (addZ2EqualsOne_contract 6) hz2
      · exact routine ((if_neg h11).trans ((if_neg hzz).trans (if_neg hz2))) (addGeneric_contract 6) trivial

theorem addNC_of_run {q p r : Jac} (h : AddCall .first 8 iAddNonConst q p r) : addNC q p = r :=
  triple_of_callE (a := 0) idx_AddNonConst_a010 (h (0, 0, 0)) (by simp [Alias.args])

theorem addNC3_of_run {q p r : Jac} (h : AddCall .distinct 8 iAddNonConst q p r) : addNC3 q p = r :=
  triple_of_callE (a := 6) idx_AddNonConst (h (0, 0, 0)) (by simp [Alias.args])

theorem addNCr2_of_run {q p r : Jac} (h : AddCall .second 8 iAddNonConst q p r) : addNCr2 q p = r :=
  triple_of_callE (a := 3) idx_AddNonConst_a011 (h (0, 0, 0)) (by simp [Alias.args])

/-- `AddNonConst(&q, &p, &p)` leaves `q`'s registers as they were -/
theorem addNCr2_first {q p r : Jac} (h : AddCall .second 8 iAddNonConst q p r) :
    (match runNamed "AddNonConst_a011" [q.1, q.2.1, q.2.2, p.1, p.2.1, p.2.2] [] with
     | some (r, _) => (rget r 0, rget r 1, rget r 2) = q | none => False) := by
  obtain ⟨regs, ret, hrun, hget⟩ := runNamed_of_callE idx_AddNonConst_a011 (h (0, 0, 0))
  rw [show runNamed "AddNonConst_a011" [q.1, q.2.1, q.2.2, p.1, p.2.1, p.2.2] [] = _ from hrun]
  show (rget regs 0, rget regs 1, rget regs 2) = q
  rw [hget 0 (by simp [Alias.args]), hget 1 (by simp [Alias.args]), hget 2 (by simp [Alias.args])]
  rfl

end Secp.Proofs.PointOps
