import Secp.Proofs.PointOpsContract
/-
  Proofs/PointOpsAdd — the four add routines (add-2007-bl and its Z-specialisations, zadd-2007-m),
  each in all three layouts from one symbolic run per layout.
-/

namespace Secp.Proofs.PointOps
open Secp.Spec Secp.Model Secp.FOp
open Secp.Gen.FormulasC

variable (callF : Nat → List Nat → Option (List Nat)) (bools : List Bool)

/-- the shape of the four add routines: `pre; if c1 { if c2 { dbl } else { zero } } else { body }` -/
def addShape (pre : List PItem) (c1 c2 : FCond) (dbl zero body : List PItem) : Prog :=
  .seq pre (.test c1 (.test c2 (.seq dbl .done) (.seq zero .done)) (.seq body .done))

theorem addShape_run (pre : List PItem) (c1 c2 : FCond) (dbl zero body : List PItem) (r : Regs) :
    (addShape pre c1 c2 dbl zero body).run callF bools r =
      (execPathWith callF bools pre r).bind fun r' =>
        bif condF r' bools c1 then
          bif condF r' bools c2 then execPathWith callF bools dbl r' else execPathWith callF bools zero r'
        else execPathWith callF bools body r' := by
  rw [addShape, Prog.run_seq]
  congr 1
  funext r'
  simp only [Prog.run, Prog.run_seq_done]

def cutAtTest : List PItem → List PItem × List PItem
  | .op o :: is => (.op o :: (cutAtTest is).1, (cutAtTest is).2)
  | is => ([], is)

/-- the program of an add routine read off the three paths of its entry: path 0 is the straight-line
    prefix, the two tests taken, and the doubling; paths 1 and 2 repeat the prefix and go on after the
    two, respectively one, `assume` items behind it.  An entry of another shape gives `.done`, whose
    one path the check `(es a).paths.map (·.items) = (addShapeOf (es a)).paths` at every use rejects:
    a reshaped Go routine fails there, not silently -/
def addShapeOf (e : Entry) : Prog :=
  match e.paths with
  | [p0, p1, p2] =>
    match cutAtTest p0.items with
    | (pre, .assume c1 _ :: .assume c2 _ :: dbl) =>
      addShape pre c1 c2 dbl (p1.items.drop (pre.length + 2)) (p2.items.drop (pre.length + 1))
    | _ => .done
  | _ => .done

theorem addShape_call {i : Nat} {es : Alias → Entry}
    (h : ∀ a, allEntries[i + a.ofs]? = some (es a) ∧
      (es a).paths.map (·.items) = (addShapeOf (es a)).paths)
    (a : Alias) (f : Nat) (args : List Nat) :
    callE (f + 1) (i + a.ofs) args =
      ((addShapeOf (es a)).run (callE f) []
        (args ++ List.replicate ((es a).nreg - args.length) 0)).map (·.take args.length) :=
  callE_prog f _ args _ _ (h a).1 (h a).2

/-- The run of the add routine whose entries are `es`, at position `i`, in all three layouts (`a`):
    unfold the entry to its `addShape` program and run it on the registers of the layout (`run_simp`
    with the definitions `ds` of the entries).  In each `*_contract` below `tU`, `tS` are written as
    literally the two `Equals` tests of the Go routine (U1 = U2, then S1 = S2) on the values its prefix
    computes, so the three conjuncts of `AddRun` (U-test false; U-test true, S-test false; both true)
    close by rewriting with the outcomes.  `hr` quantifies over what the result registers of the
    doubling call hold; in place there are none, and the three numbers it still asks for are 0. -/
macro "add_run" a:ident i:term:max es:term:max "[" ds:Lean.Parser.Tactic.simpLemma,* "]" : tactic =>
  `(tactic| (
    rw [addShape_call (i := $i) (es := $es) fun a => by cases a <;> exact ⟨rfl, by decide +kernel⟩]
    cases $a:ident <;>
      run_simp [Alias.inPlace, addShapeOf, cutAtTest, addShape_run, $ds,*] <;>
      exact ⟨fun h => by rw [h]; rfl, fun h1 h2 => by rw [h1, h2]; rfl,
        fun h1 h2 r hr => by rw [h1, h2, hr]; rfl; all_goals exact 0⟩))

def addGenericE : Alias → Entry
  | .distinct => addGeneric
  | .first => addGeneric_a010
  | .second => addGeneric_a011

theorem addGeneric_contract (f : Nat) :
    AddContract (fun _ _ => True) (fun q p r => ∀ a, AddCall a (f + 1) iAddGeneric q p r)
      (fun q r => ∀ b, DblCall b f iDoubleNonConst q r) := by
  refine contract_of_run fun X1 Y1 Z1 X2 Y2 Z2 _ _ _ _ _ =>
    ⟨fmul X1 (fsq Z2) % P == fmul X2 (fsq Z1) % P,
      fmul (fmul Y1 (fsq Z2)) Z2 % P == fmul (fmul Y2 (fsq Z1)) Z1 % P, ?X3, ?Y3, ?Z3,
      beq_iff_of_cast (Nat.mod_lt _ P_pos) (Nat.mod_lt _ P_pos) one_ne_zero (by cast_simp; ring) (by cast_simp; ring),
      beq_iff_of_cast (Nat.mod_lt _ P_pos) (Nat.mod_lt _ P_pos) one_ne_zero (by cast_simp; ring) (by cast_simp; ring),
      ?bnd, ?ch, fun a j => ?run⟩
  case run =>
    add_run a iAddGeneric addGenericE [addGenericE, addGeneric, addGeneric_a010, addGeneric_a011,
      addGeneric_p0, addGeneric_p1, addGeneric_p2, addGeneric_a010_p0, addGeneric_a010_p1,
      addGeneric_a010_p2, addGeneric_a011_p0, addGeneric_a011_p1, addGeneric_a011_p2]
  case bnd => exact Bnd.mod ..
  case ch =>
    convert chordRep_addG (X1 : F) Y1 Z1 X2 Y2 Z2 using 1
    all_goals cast_simp
    all_goals simp only [agX, agY, agZ]
    all_goals ring

def addZ1EqualsZ2E : Alias → Entry
  | .distinct => addZ1EqualsZ2
  | .first => addZ1EqualsZ2_a010
  | .second => addZ1EqualsZ2_a011

theorem addZ1EqualsZ2_contract (f : Nat) :
    AddContract (fun Z1 Z2 => Z1 = Z2) (fun q p r => ∀ a, AddCall a (f + 1) iAddZ1EqualsZ2 q p r)
      (fun q r => ∀ b, DblCall b f iDoubleNonConst q r) := by
  refine contract_of_run fun X1 Y1 Z1 X2 Y2 Z2 hb1 hb2 hz1 _ hpre => ?_
  subst hpre
  have hzF : (Z1 : F) ≠ 0 := fun h => hz1 ((cast_eq_zero_iff_of_lt hb1.2.2).1 h)
  refine ⟨X1 == X2, Y1 == Y2, ?X3, ?Y3, ?Z3,
    beq_iff_of_cast hb1.1 hb2.1 (pow_ne_zero 2 hzF) rfl rfl,
    beq_iff_of_cast hb1.2.1 hb2.2.1 (pow_ne_zero 3 hzF) rfl rfl,
    ?bnd, ?ch, fun a j => ?run⟩
  case run =>
    add_run a iAddZ1EqualsZ2 addZ1EqualsZ2E [addZ1EqualsZ2E, addZ1EqualsZ2, addZ1EqualsZ2_a010,
      addZ1EqualsZ2_a011, addZ1EqualsZ2_p0, addZ1EqualsZ2_p1, addZ1EqualsZ2_p2, addZ1EqualsZ2_a010_p0,
      addZ1EqualsZ2_a010_p1, addZ1EqualsZ2_a010_p2, addZ1EqualsZ2_a011_p0, addZ1EqualsZ2_a011_p1,
      addZ1EqualsZ2_a011_p2]
  case bnd => exact Bnd.mod ..
  case ch =>
    convert chordRep_addZ (X1 : F) Y1 Z1 X2 Y2 using 1
    all_goals cast_simp
    all_goals simp only [azX, azY, azZ]
    all_goals ring

def addZ2EqualsOneE : Alias → Entry
  | .distinct => addZ2EqualsOne
  | .first => addZ2EqualsOne_a010
  | .second => addZ2EqualsOne_a011

theorem addZ2EqualsOne_contract (f : Nat) :
    AddContract (fun _ Z2 => Z2 = 1) (fun q p r => ∀ a, AddCall a (f + 1) iAddZ2EqualsOne q p r)
      (fun q r => ∀ b, DblCall b f iDoubleNonConst q r) := by
  refine contract_of_run fun X1 Y1 Z1 X2 Y2 Z2 hb1 _ _ _ hpre => ?_
  subst hpre
  refine ⟨X1 == fmul X2 (fsq Z1) % P, Y1 == fmul (fmul Y2 (fsq Z1)) Z1 % P, ?X3, ?Y3, ?Z3,
    beq_iff_of_cast hb1.1 (Nat.mod_lt _ P_pos) one_ne_zero (by cast_simp; ring) (by cast_simp; ring),
    beq_iff_of_cast hb1.2.1 (Nat.mod_lt _ P_pos) one_ne_zero (by cast_simp; ring) (by cast_simp; ring),
    ?bnd, ?ch, fun a j => ?run⟩
  case run =>
    add_run a iAddZ2EqualsOne addZ2EqualsOneE [addZ2EqualsOneE, addZ2EqualsOne, addZ2EqualsOne_a010,
      addZ2EqualsOne_a011, addZ2EqualsOne_p0, addZ2EqualsOne_p1, addZ2EqualsOne_p2, addZ2EqualsOne_a010_p0,
      addZ2EqualsOne_a010_p1, addZ2EqualsOne_a010_p2, addZ2EqualsOne_a011_p0, addZ2EqualsOne_a011_p1,
      addZ2EqualsOne_a011_p2]
  case bnd => exact Bnd.mod ..
  case ch =>
    convert chordRep_addG (X1 : F) Y1 Z1 X2 Y2 ((1 : Nat) : F) using 1
    all_goals cast_simp
    all_goals simp only [agX, agY, agZ]
    all_goals ring

def addZ1AndZ2EqualsOneE : Alias → Entry
  | .distinct => addZ1AndZ2EqualsOne
  | .first => addZ1AndZ2EqualsOne_a010
  | .second => addZ1AndZ2EqualsOne_a011

theorem addZ1AndZ2EqualsOne_contract (f : Nat) :
    AddContract (fun Z1 Z2 => Z1 = 1 ∧ Z2 = 1) (fun q p r => ∀ a, AddCall a (f + 1) iAddZ1AndZ2EqualsOne q p r)
      (fun q r => ∀ b, DblCall b f iDoubleNonConst q r) := by
  refine contract_of_run fun X1 Y1 Z1 X2 Y2 Z2 hb1 hb2 _ _ hpre => ?_
  obtain ⟨hp1, hp2⟩ := hpre
  subst hp1 hp2
  refine ⟨X1 == X2, Y1 == Y2, ?X3, ?Y3, ?Z3,
    beq_iff_of_cast hb1.1 hb2.1 one_ne_zero (by cast_simp; ring) (by cast_simp; ring),
    beq_iff_of_cast hb1.2.1 hb2.2.1 one_ne_zero (by cast_simp; ring) (by cast_simp; ring),
    ?bnd, ?ch, fun a j => ?run⟩
  case run =>
    add_run a iAddZ1AndZ2EqualsOne addZ1AndZ2EqualsOneE [addZ1AndZ2EqualsOneE, addZ1AndZ2EqualsOne,
      addZ1AndZ2EqualsOne_a010, addZ1AndZ2EqualsOne_a011, addZ1AndZ2EqualsOne_p0, addZ1AndZ2EqualsOne_p1,
      addZ1AndZ2EqualsOne_p2, addZ1AndZ2EqualsOne_a010_p0, addZ1AndZ2EqualsOne_a010_p1,
      addZ1AndZ2EqualsOne_a010_p2, addZ1AndZ2EqualsOne_a011_p0, addZ1AndZ2EqualsOne_a011_p1,
      addZ1AndZ2EqualsOne_a011_p2]
  case bnd => exact Bnd.mod ..
  case ch =>
    convert chordRep_addG (X1 : F) Y1 ((1 : Nat) : F) X2 Y2 ((1 : Nat) : F) using 1
    all_goals cast_simp
    all_goals simp only [agX, agY, agZ]
    all_goals ring

end Secp.Proofs.PointOps
