import Secp.Proofs.RunNamed
/-
  Proofs/PointOpsBase — infrastructure for C04: running entries of the call-structured formula
  table (`Gen.FormulasC.allEntries`) symbolically.  A routine is a structured
  program (`Prog`): the generator lists every execution path of a Go function, `Prog` is the
  function itself (straight-line items and two-way tests), `Prog.paths` its path list in the
  generator's order and `Prog.run` what it computes.  An entry whose path list is `t.paths` (a
  finite fact, decided by the kernel) runs as `t.run`; nothing afterwards looks at a path list.
-/

namespace Secp.Proofs.PointOps
open Secp.Model Secp.FOp
open Secp.Gen.FormulasC (allEntries)

def callE (fuel idx : Nat) (args : List Nat) : Option (List Nat) :=
  (runEntryC allEntries fuel idx args []).map fun (r, _) => r.take args.length

theorem rget_of_take {r outs : List Nat} {n : Nat} (h : r.take n = outs) (i : Nat) (hi : i < n) :
    rget r i = rget outs i := by
  subst h
  unfold rget
  simp [List.getD, hi]

inductive Prog where
  | done
  | step (i : PItem) (k : Prog)
  | test (c : FCond) (t f : Prog)

namespace Prog

def seq : List PItem → Prog → Prog
  | [], k => k
  | i :: is, k => step i (seq is k)

/-- the paths in the generator's order: the outcome `true` of a test first -/
def paths : Prog → List (List PItem)
  | done => [[]]
  | step i k => k.paths.map (i :: ·)
  | test c t f => t.paths.map (.assume c true :: ·) ++ f.paths.map (.assume c false :: ·)

variable (callF : Nat → List Nat → Option (List Nat)) (bools : List Bool)

def run : Prog → Regs → Option Regs
  | done, r => some r
  | step i k, r => (execPathWith callF bools [i] r).bind (k.run)
  | test c t f, r => bif condF r bools c then t.run r else f.run r

theorem findSome?_paths (t : Prog) (r : Regs) :
    t.paths.findSome? (fun is => execPathWith callF bools is r) = t.run callF bools r := by
  have hn : ∀ l : List (List PItem), l.findSome? (fun _ => (none : Option Regs)) = none :=
    fun l => List.findSome?_eq_none_iff.2 fun _ _ => rfl
  induction t generalizing r with
  | done => rfl
  | step i k ih =>
    have h : (fun is => execPathWith callF bools is r) ∘ (i :: ·) =
        fun is => (execPathWith callF bools [i] r).bind (execPathWith callF bools is) :=
      funext fun is => Chains.exec_append [i] is r
    rw [paths, run, List.findSome?_map, h]
    cases execPathWith callF bools [i] r with
    | none => exact hn _
    | some r' => exact ih r'
  | test c t f iht ihf =>
    simp only [paths, run, List.findSome?_append, List.findSome?_map, Function.comp_def, execPathWith]
    cases condF r bools c <;> simp [iht, ihf, hn]

theorem run_seq (is : List PItem) (k : Prog) (r : Regs) :
    (seq is k).run callF bools r = (execPathWith callF bools is r).bind (k.run callF bools) := by
  induction is generalizing r with
  | nil => rfl
  | cons i is ih =>
    rw [seq, run, show i :: is = [i] ++ is from rfl, Chains.exec_append, Option.bind_assoc]
    congr 1
    funext r'
    exact ih r'

theorem run_seq_done (is : List PItem) (r : Regs) :
    (seq is done).run callF bools r = execPathWith callF bools is r := by
  rw [run_seq]
  cases execPathWith callF bools is r <;> rfl

theorem run_call (k : Nat) (params : List Nat) (r : Regs) :
    (step (.call k params) done).run callF bools r =
      (callF k (params.map (rget r))).map (writeBack r params) := by
  simp only [run, execPathWith]
  cases callF k (params.map (rget r)) <;> rfl

end Prog

theorem callE_prog (f idx : Nat) (args : List Nat) (e : Entry) (t : Prog)
    (he : allEntries[idx]? = some e) (ht : e.paths.map (·.items) = t.paths) :
    callE (f + 1) idx args =
      (t.run (callE f) [] (args ++ List.replicate (e.nreg - args.length) 0)).map
        (·.take args.length) := by
  unfold callE
  rw [Chains.runEntryC_step allEntries f idx args [] e he (callE f) fun _ _ => rfl,
    ← Prog.findSome?_paths, ← ht, List.findSome?_map, List.map_findSome?, List.map_findSome?]
  congr 1
  funext p
  exact Option.map_map ..

theorem rget_cons_zero (a : Nat) (r : Regs) : rget (a :: r) 0 = a := rfl
theorem rget_cons_succ (a : Nat) (r : Regs) (i : Nat) : rget (a :: r) (i + 1) = rget r i := rfl
theorem rset_cons_zero (a v : Nat) (r : Regs) : rset (a :: r) 0 v = v :: r := rfl
theorem rset_cons_succ (a v : Nat) (r : Regs) (i : Nat) : rset (a :: r) (i + 1) v = a :: rset r i v := rfl

/-- which operand of `AddNonConst(p1, p2, result)` the result object is; the generator emits one
    entry per pattern (suffixes "", "_a010", "_a011"), consecutive in the table.  Registers 0‥2 hold
    `p1`, 3‥5 `p2`, and 6‥8 a distinct `result` -/
inductive Alias where
  | distinct | first | second

namespace Alias

/-- how far behind the distinct-result entry the entry of this pattern is -/
def ofs : Alias → Nat
  | distinct => 0 | first => 1 | second => 2

/-- the first register of the result -/
def res : Alias → Nat
  | distinct => 6 | first => 0 | second => 3

/-- the registers `AddNonConst` hands on to the routine it selects: all its parameters -/
def params : Alias → List Nat
  | distinct => [0, 1, 2, 3, 4, 5, 6, 7, 8]
  | _ => [0, 1, 2, 3, 4, 5]

/-- what the parameter registers hold before a call; `j` is what a distinct result object holds -/
def args : Alias → Jac → Jac → Jac → List Nat
  | distinct, q, p, j => [q.1, q.2.1, q.2.2, p.1, p.2.1, p.2.2, j.1, j.2.1, j.2.2]
  | _, q, p, _ => [q.1, q.2.1, q.2.2, p.1, p.2.1, p.2.2]

/-- what they hold after a call that returned `r`: the operands as before, except the one the
    result aliases -/
def outs : Alias → Jac → Jac → Jac → List Nat
  | distinct, q, p, r => [q.1, q.2.1, q.2.2, p.1, p.2.1, p.2.2, r.1, r.2.1, r.2.2]
  | first, _, p, r => [r.1, r.2.1, r.2.2, p.1, p.2.1, p.2.2]
  | second, q, _, r => [q.1, q.2.1, q.2.2, r.1, r.2.1, r.2.2]

end Alias

/-- AddNonConst or an add routine, at position `i` (an `i…` of RunNamed), called in layout `a` with
    call-depth budget `f` (first number: depth, second: position), returns `r`, whatever a distinct
    result object held before, and leaves the operands it does not alias unchanged -/
def AddCall (a : Alias) (f i : Nat) (q p r : Jac) : Prop :=
  ∀ j, callE f (i + a.ofs) (a.args q p j) = some (a.outs q p r)

/-- the parameter registers of `DoubleNonConst(p, result)` and its routines before a call: `result`
    is `p` itself (`inPlace`, entry suffix "_a00", next in the table) or a distinct object holding `j` -/
def dblArgs (inPlace : Bool) (q j : Jac) : List Nat :=
  bif inPlace then [q.1, q.2.1, q.2.2] else [q.1, q.2.1, q.2.2, j.1, j.2.1, j.2.2]

def dblOuts (inPlace : Bool) (q r : Jac) : List Nat :=
  bif inPlace then [r.1, r.2.1, r.2.2] else [q.1, q.2.1, q.2.2, r.1, r.2.1, r.2.2]

/-- the same for DoubleNonConst and the double routines: depth `f`, position `i`, in place or not -/
def DblCall (inPlace : Bool) (f i : Nat) (q r : Jac) : Prop :=
  ∀ j, callE f (i + inPlace.toNat) (dblArgs inPlace q j) = some (dblOuts inPlace q r)

/-- run items on the explicit register list of a layout: each item is one rewriting step; tests are
    decided by hypotheses `(a == b) = true/false` given as arguments -/
macro "run_simp" "[" ts:Lean.Parser.Tactic.simpLemma,* "]" : tactic =>
  `(tactic| simp only [Prog.run, Prog.run_seq_done, execPathWith, stepF, condF, writeBack,
    rget_cons_zero, rget_cons_succ, rset_cons_zero, rset_cons_succ, List.map_cons, List.map_nil,
    Option.bind_some, Option.map_some, cond_true, cond_false, List.take_succ_cons, List.take_zero,
    List.drop_succ_cons, List.drop_zero, List.replicate, List.cons_append, List.nil_append,
    List.length_cons, List.length_nil, Nat.reduceAdd, Nat.zero_mod,
    Alias.args, Alias.outs, dblArgs, dblOuts, Bool.toNat, iAddNonConst, iDoubleNonConst, iAddGeneric,
    iAddZ1AndZ2EqualsOne, iAddZ1EqualsZ2, iAddZ2EqualsOne, iDoubleGeneric, iDoubleZ1EqualsOne, $ts,*])

/-- 8 is the call-depth budget `Model.runNamed` starts every entry with (the deepest chain,
    AddNonConst → add routine → DoubleNonConst → double routine, uses 4 of it) -/
theorem runNamed_of_callE {name : String} {i : Nat} {args outs : List Nat}
    (hi : entryIdx name = i) (h : callE 8 i args = some outs) :
    ∃ regs ret, runNamed name args [] = some (regs, ret) ∧
      ∀ k < args.length, rget regs k = rget outs k := by
  obtain ⟨⟨regs, ret⟩, hrun, htake⟩ := Option.map_eq_some_iff.1 h
  refine ⟨regs, ret, ?_, fun k hk => rget_of_take htake k hk⟩
  unfold runNamed
  rw [hi]
  exact hrun

theorem triple_of_callE {name : String} {i a : Nat} {args outs : List Nat}
    (hi : entryIdx name = i) (h : callE 8 i args = some outs) (ha : a + 2 < args.length) :
    (match runNamed name args [] with
      | some (r, _) => (rget r a, rget r (a + 1), rget r (a + 2))
      | none => Jac.inf) = (rget outs a, rget outs (a + 1), rget outs (a + 2)) := by
  obtain ⟨regs, ret, hrun, hget⟩ := runNamed_of_callE hi h
  rw [hrun]
  show (rget regs a, rget regs (a + 1), rget regs (a + 2)) = _
  rw [hget a (by omega), hget (a + 1) (by omega), hget (a + 2) ha]

end Secp.Proofs.PointOps
