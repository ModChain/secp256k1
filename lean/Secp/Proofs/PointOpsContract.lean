import Secp.Proofs.PointOpsBase
import Secp.Proofs.PointOpsField
/-
  Proofs/PointOpsContract — from the polynomial description of a routine's outputs to the statement
  about `Jac.WF` / `Jac.toPt` / `Pt.add` / `Pt.dbl`; the contracts the add routines and
  DoubleNonConst satisfy, and the generic theorem combining them.
-/

namespace Secp.Proofs.PointOps
open Secp.Spec Secp.Model Secp.FOp Secp.Proofs.SpecGroup

def AddOK (q p r : Jac) : Prop := Jac.WF r ∧ Jac.toPt r = Pt.add (Jac.toPt q) (Jac.toPt p)
def DblOK (q r : Jac) : Prop := Jac.WF r ∧ Jac.toPt r = Pt.dbl (Jac.toPt q)

theorem dbl_ok_zero {q : Jac} (hq : Jac.WF q) (h : q.2.1 = 0 ∨ q.2.2 = 0) : DblOK q (0, 0, 0) := by
  refine ⟨ScalarMultJac.WF_inf, ScalarMultJac.toPt_inf.trans ?_⟩
  cases hfin : isInfJ q with
  | true => rw [toPt_of_inf hfin]; rfl
  | false =>
    obtain ⟨x, y, -, hv, hr⟩ := rep_of_WF hq hfin
    rcases h with h | h
    · exact absurd (by rw [h, Nat.cast_zero]) (hr.Y_ne_zero hv)
    · exact absurd (by rw [h, Nat.cast_zero]) hr.hz

theorem dbl_ok_poly {X Y Z X3 Y3 Z3 : Nat} (hq : Jac.WF (X, Y, Z)) (hY : Y ≠ 0) (hZ : Z ≠ 0)
    (h3 : Bnd (X3, Y3, Z3))
    (eX : (X3 : F) = dbX X Y) (eY : (Y3 : F) = dbY X Y) (eZ : (Z3 : F) = dbZ Y Z) :
    DblOK (X, Y, Z) (X3, Y3, Z3) := by
  have hfin : isInfJ (X, Y, Z) = false := fin_iff.2 ⟨fun h => hY h.2, hZ⟩
  obtain ⟨x, y, hpt, hv, hr⟩ := rep_of_WF hq hfin
  obtain ⟨hz, hx, hy⟩ := hr
  simp only at hz hx hy
  have hy0 := y_ne_zero ((curve_cast x y).1 hv.2.2)
  have hd := dbl_tangent x y Z hy0 hz
  rw [← hx, ← hy, ← eX, ← eY, ← eZ] at hd
  have hv3 := valid_dbl hv
  obtain ⟨x3, y3, e, -, -, e3x, e3y⟩ := dbl_some_ex (x := x) hv.y_mod_ne
  unfold DblOK
  rw [e] at hv3
  rw [hpt, e]
  exact wf_toPt_of_rep h3 hv3 ⟨hd.1, by rw [hd.2.1, e3x], by rw [hd.2.2, e3y]⟩

/-- what a DoubleNonConst variant does, `DRun q r` meaning "run on `q` it returns `r`" -/
def DblContract (DRun : Jac → Jac → Prop) : Prop :=
  ∀ q, Jac.WF q → ∃ r, DRun q r ∧ DblOK q r

/-- what an add routine variant does on operands with nonzero Z satisfying its precondition `Pre Z1 Z2`,
    as a polynomial statement; `Run q p r` means "run on `q`, `p` it returns `r`" -/
structure AddContract (Pre : Nat → Nat → Prop) (Run : Jac → Jac → Jac → Prop)
    (DRun : Jac → Jac → Prop) : Prop where
  /-- the affine x differ (compared cross-multiplied, as the routine does): the chord formula -/
  ne : ∀ X1 Y1 Z1 X2 Y2 Z2 : Nat, Bnd (X1, Y1, Z1) → Bnd (X2, Y2, Z2) → Z1 ≠ 0 → Z2 ≠ 0 → Pre Z1 Z2 →
    (X1 : F) * (Z2 : F) ^ 2 ≠ (X2 : F) * (Z1 : F) ^ 2 →
    ∃ X3 Y3 Z3, Run (X1, Y1, Z1) (X2, Y2, Z2) (X3, Y3, Z3) ∧ Bnd (X3, Y3, Z3) ∧
      ChordRep X1 Y1 Z1 X2 Y2 Z2 X3 Y3 Z3
  /-- equal x, different y: the identity -/
  eq_ne : ∀ X1 Y1 Z1 X2 Y2 Z2 : Nat, Bnd (X1, Y1, Z1) → Bnd (X2, Y2, Z2) → Z1 ≠ 0 → Z2 ≠ 0 → Pre Z1 Z2 →
    (X1 : F) * (Z2 : F) ^ 2 = (X2 : F) * (Z1 : F) ^ 2 → (Y1 : F) * (Z2 : F) ^ 3 ≠ (Y2 : F) * (Z1 : F) ^ 3 →
    Run (X1, Y1, Z1) (X2, Y2, Z2) (0, 0, 0)
  /-- the same point: whatever the doubling routine returns on the first operand -/
  eq_eq : ∀ X1 Y1 Z1 X2 Y2 Z2 : Nat, Bnd (X1, Y1, Z1) → Bnd (X2, Y2, Z2) → Z1 ≠ 0 → Z2 ≠ 0 → Pre Z1 Z2 →
    (X1 : F) * (Z2 : F) ^ 2 = (X2 : F) * (Z1 : F) ^ 2 → (Y1 : F) * (Z2 : F) ^ 3 = (Y2 : F) * (Z1 : F) ^ 3 →
    ∀ r, DRun (X1, Y1, Z1) r → Run (X1, Y1, Z1) (X2, Y2, Z2) r

theorem cross_eq_iff {a b Z1 Z2 : F} (k : Nat) (h1 : Z1 ≠ 0) (h2 : Z2 ≠ 0) :
    a * Z1 ^ k * Z2 ^ k = b * Z2 ^ k * Z1 ^ k ↔ a = b := by
  constructor
  · intro h
    exact mul_right_cancel₀ (mul_ne_zero (pow_ne_zero k h1) (pow_ne_zero k h2)) (by linear_combination h)
  · intro h; rw [h]; ring

theorem add_of_contract {Pre : Nat → Nat → Prop} {Run : Jac → Jac → Jac → Prop} {DRun : Jac → Jac → Prop}
    (hA : AddContract Pre Run DRun) (hD : DblContract DRun) (q p : Jac)
    (hq : Jac.WF q) (hp : Jac.WF p) (hqf : isInfJ q = false) (hpf : isInfJ p = false)
    (hpre : Pre q.2.2 p.2.2) : ∃ r, Run q p r ∧ AddOK q p r := by
  obtain ⟨x1, y1, hpt1, hv1, hr1⟩ := rep_of_WF hq hqf
  obtain ⟨x2, y2, hpt2, hv2, hr2⟩ := rep_of_WF hp hpf
  have hb1 := Bnd_of_WF hq
  have hb2 := Bnd_of_WF hp
  obtain ⟨X1, Y1, Z1⟩ := q
  obtain ⟨X2, Y2, Z2⟩ := p
  have hz1 : Z1 ≠ 0 := (fin_iff.1 hqf).2
  have hz2 : Z2 ≠ 0 := (fin_iff.1 hpf).2
  obtain ⟨hZ1, hX1, hY1⟩ := hr1
  obtain ⟨hZ2, hX2, hY2⟩ := hr2
  simp only at hpre hZ1 hX1 hY1 hZ2 hX2 hY2
  have hU : (X1 : F) * (Z2 : F) ^ 2 = (X2 : F) * (Z1 : F) ^ 2 ↔ (x1 : F) = x2 := by
    rw [hX1, hX2]; exact cross_eq_iff 2 hZ1 hZ2
  have hS : (Y1 : F) * (Z2 : F) ^ 3 = (Y2 : F) * (Z1 : F) ^ 3 ↔ (y1 : F) = y2 := by
    rw [hY1, hY2]; exact cross_eq_iff 3 hZ1 hZ2
  unfold AddOK
  rw [hpt1, hpt2]
  by_cases hx : (x1 : F) = x2
  · have hxm : x1 % P = x2 % P := (mod_P_eq_iff _ _).2 hx
    by_cases hy : (y1 : F) = y2
    · have hym : y1 % P = y2 % P := (mod_P_eq_iff _ _).2 hy
      obtain ⟨r, hrun, hwf, hdbl⟩ := hD (X1, Y1, Z1) hq
      refine ⟨r, hA.eq_eq X1 Y1 Z1 X2 Y2 Z2 hb1 hb2 hz1 hz2 hpre (hU.2 hx) (hS.2 hy) r hrun, hwf, ?_⟩
      rw [hdbl, hpt1]
      simp only [Pt.add, if_pos hxm, if_pos hym]
    · have hym : ¬ y1 % P = y2 % P := fun h => hy ((mod_P_eq_iff _ _).1 h)
      refine ⟨(0, 0, 0), hA.eq_ne X1 Y1 Z1 X2 Y2 Z2 hb1 hb2 hz1 hz2 hpre (hU.2 hx) (fun h => hy (hS.1 h)),
        ScalarMultJac.WF_inf, ScalarMultJac.toPt_inf.trans ?_⟩
      simp only [Pt.add, if_pos hxm, if_neg hym]
  · have hxm : x1 % P ≠ x2 % P := fun h => hx ((mod_P_eq_iff _ _).1 h)
    obtain ⟨X3, Y3, Z3, hrun, hb3, hch⟩ :=
      hA.ne X1 Y1 Z1 X2 Y2 Z2 hb1 hb2 hz1 hz2 hpre (fun h => hx (hU.1 h))
    obtain ⟨hz3, hx3, hy3⟩ := hch x1 y1 x2 y2 hX1 hY1 hX2 hY2 hZ1 hZ2 hx
    have hv3 := valid_add hv1 hv2
    obtain ⟨x3, y3, e, -, -, e3x, e3y⟩ := add_some_ex (y1 := y1) (y2 := y2) hxm
    rw [e] at hv3 ⊢
    exact ⟨(X3, Y3, Z3), hrun, wf_toPt_of_rep hb3 hv3 ⟨hz3, by rw [hx3, e3x], by rw [hy3, e3y]⟩⟩

/-- the doubling call an add routine makes is in place exactly when the result is its first operand
    (for `second` it doubles the first operand into the second's registers) -/
def Alias.inPlace : Alias → Bool
  | .first => true
  | _ => false

/-- one run of the add routine at position `i` on `q`, `p` in every layout: `tU`, `tS` are the
    outcomes of its two tests (`U1 = U2`, then `S1 = S2`, in the names of add-2007-bl), `r3` what the
    chord formula gives; the doubling it calls is DoubleNonConst with one unit less of depth.  What a
    distinct result object of that call holds is quantified as three numbers, not as a `Jac` as in
    `DblCall`: `rw` finds three numbers by matching them with the registers the routine passes, it
    would not find a triple from its projections; `contract_of_run` converts -/
def AddRun (f i : Nat) (q p : Jac) (tU tS : Bool) (r3 : Jac) : Prop :=
  ∀ (a : Alias) (j : Jac),
    (tU = false → callE (f + 1) (i + a.ofs) (a.args q p j) = some (a.outs q p r3)) ∧
    (tU = true → tS = false → callE (f + 1) (i + a.ofs) (a.args q p j) = some (a.outs q p (0, 0, 0))) ∧
    (tU = true → tS = true → ∀ r,
      (∀ j3 j4 j5 : Nat, callE f (iDoubleNonConst + a.inPlace.toNat) (dblArgs a.inPlace q (j3, j4, j5)) =
        some (dblOuts a.inPlace q r)) →
      callE (f + 1) (i + a.ofs) (a.args q p j) = some (a.outs q p r))

theorem contract_of_run {Pre : Nat → Nat → Prop} {f i : Nat}
    (h : ∀ X1 Y1 Z1 X2 Y2 Z2 : Nat, Bnd (X1, Y1, Z1) → Bnd (X2, Y2, Z2) → Z1 ≠ 0 → Z2 ≠ 0 → Pre Z1 Z2 →
      ∃ tU tS X3 Y3 Z3, (tU = true ↔ (X1 : F) * (Z2 : F) ^ 2 = (X2 : F) * (Z1 : F) ^ 2) ∧
        (tS = true ↔ (Y1 : F) * (Z2 : F) ^ 3 = (Y2 : F) * (Z1 : F) ^ 3) ∧ Bnd (X3, Y3, Z3) ∧
        ChordRep X1 Y1 Z1 X2 Y2 Z2 X3 Y3 Z3 ∧ AddRun f i (X1, Y1, Z1) (X2, Y2, Z2) tU tS (X3, Y3, Z3)) :
    AddContract Pre (fun q p r => ∀ a, AddCall a (f + 1) i q p r)
      (fun q r => ∀ b, DblCall b f iDoubleNonConst q r) where
  ne X1 Y1 Z1 X2 Y2 Z2 hb1 hb2 hz1 hz2 hpre hne := by
    obtain ⟨tU, tS, X3, Y3, Z3, hU, _, hb, hc, hrun⟩ := h X1 Y1 Z1 X2 Y2 Z2 hb1 hb2 hz1 hz2 hpre
    have hU' : tU = false := Bool.eq_false_iff.2 fun e => hne (hU.1 e)
    exact ⟨X3, Y3, Z3, fun a j => (hrun a j).1 hU', hb, hc⟩
  eq_ne X1 Y1 Z1 X2 Y2 Z2 hb1 hb2 hz1 hz2 hpre hu hs a j := by
    obtain ⟨tU, tS, X3, Y3, Z3, hU, hS, _, _, hrun⟩ := h X1 Y1 Z1 X2 Y2 Z2 hb1 hb2 hz1 hz2 hpre
    exact (hrun a j).2.1 (hU.2 hu) (Bool.eq_false_iff.2 fun e => hs (hS.1 e))
  eq_eq X1 Y1 Z1 X2 Y2 Z2 hb1 hb2 hz1 hz2 hpre hu hs r hr a j := by
    obtain ⟨tU, tS, X3, Y3, Z3, hU, hS, _, _, hrun⟩ := h X1 Y1 Z1 X2 Y2 Z2 hb1 hb2 hz1 hz2 hpre
    exact (hrun a j).2.2 (hU.2 hu) (hS.2 hs) r fun j3 j4 j5 => hr a.inPlace (j3, j4, j5)

end Secp.Proofs.PointOps
