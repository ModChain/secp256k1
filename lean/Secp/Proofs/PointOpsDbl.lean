import Secp.Proofs.PointOpsContract
/-
  Proofs/PointOpsDbl — DoubleNonConst and the two routines it calls, with a distinct result and in
  place, each from one proof; the bridge to the model functions `dblNC`, `dblNC3`.
-/

namespace Secp.Proofs.PointOps
open Secp.Model Secp.FOp
open Secp.Gen.FormulasC

/-- both routines are straight-line; 6 is `nreg` less the parameter registers, the same for the four entries -/
theorem dblRoutine_call (b : Bool) (f : Nat) (q j : Jac) :
    (callE (f + 1) (iDoubleGeneric + b.toNat) (dblArgs b q j) =
      (execPathWith (callE f) [] (bif b then doubleGeneric_a00_p0 else doubleGeneric_p0).items
        (dblArgs b q j ++ List.replicate (6 : Nat) 0)).map (·.take (dblArgs b q j).length)) ∧
    (callE (f + 1) (iDoubleZ1EqualsOne + b.toNat) (dblArgs b q j) =
      (execPathWith (callE f) [] (bif b then doubleZ1EqualsOne_a00_p0 else doubleZ1EqualsOne_p0).items
        (dblArgs b q j ++ List.replicate (6 : Nat) 0)).map (·.take (dblArgs b q j).length)) := by
  cases b <;> constructor <;> rw [← Prog.run_seq_done]
  · exact callE_prog f _ _ doubleGeneric _ rfl (by decide +kernel)
  · exact callE_prog f _ _ doubleZ1EqualsOne _ rfl (by decide +kernel)
  · exact callE_prog f _ _ doubleGeneric_a00 _ rfl (by decide +kernel)
  · exact callE_prog f _ _ doubleZ1EqualsOne_a00 _ rfl (by decide +kernel)

theorem doubleGeneric_run (f X Y Z : Nat) :
    ∃ X3 Y3 Z3, (∀ b, DblCall b (f + 1) iDoubleGeneric (X, Y, Z) (X3, Y3, Z3)) ∧ Bnd (X3, Y3, Z3) ∧
      (X3 : F) = dbX X Y ∧ (Y3 : F) = dbY X Y ∧ (Z3 : F) = dbZ Y Z := by
  refine ⟨?X3, ?Y3, ?Z3, fun b j => ?run, ?bnd, ?eX, ?eY, ?eZ⟩
  case run =>
    rw [(dblRoutine_call b f _ j).1]
    cases b <;> run_simp [doubleGeneric_p0, doubleGeneric_a00_p0] <;> rfl
  case bnd => exact Bnd.mod ..
  all_goals cast_simp
  all_goals simp only [dbX, dbY, dbZ]
  all_goals ring

theorem doubleZ1EqualsOne_run (f X Y : Nat) :
    ∃ X3 Y3 Z3, (∀ b, DblCall b (f + 1) iDoubleZ1EqualsOne (X, Y, 1) (X3, Y3, Z3)) ∧ Bnd (X3, Y3, Z3) ∧
      (X3 : F) = dbX X Y ∧ (Y3 : F) = dbY X Y ∧ (Z3 : F) = dbZ Y (1 : Nat) := by
  refine ⟨?X3, ?Y3, ?Z3, fun b j => ?run, ?bnd, ?eX, ?eY, ?eZ⟩
  case run =>
    rw [(dblRoutine_call b f _ j).2]
    cases b <;> run_simp [doubleZ1EqualsOne_p0, doubleZ1EqualsOne_a00_p0] <;> rfl
  case bnd => exact Bnd.mod ..
  all_goals cast_simp
  all_goals simp only [dbX, dbY, dbZ]
  all_goals ring

/-- the routine DoubleNonConst selects for an operand with this Z (position of its distinct-result entry) -/
def dsel (Z : Nat) : Nat := if Z = 1 then iDoubleZ1EqualsOne else iDoubleGeneric

/-- Go's `if y.IsZero() || z.IsZero() { .. return }` followed by `if z.IsOne() { .. } else { .. }` -/
def dblTest (y z : Nat) (zero : Prog) (k : Nat → Prog) : Prog :=
  .test (.isZero y) zero <| .test (.isZero z) zero <| .test (.isOne z) (k iDoubleZ1EqualsOne) (k iDoubleGeneric)

theorem dblTest_run (callF : Nat → List Nat → Option (List Nat)) (bools : List Bool) (y z : Nat)
    (zero : Prog) (k : Nat → Prog) (r : Regs) :
    (dblTest y z zero k).run callF bools r =
      bif (rget r y == 0 || rget r z == 0) then zero.run callF bools r
      else (k (dsel (rget r z))).run callF bools r := by
  simp only [dblTest, Prog.run, condF, dsel, Bool.beq_eq_decide_eq, ← Bool.cond_decide]
  cases decide (rget r y = 0) <;> cases decide (rget r z = 0) <;> cases decide (rget r z = 1) <;> rfl

/-- `DoubleNonConst` of curve.go with the result in registers `res ..` -/
def doubleNonConstProg (b : Bool) : Prog :=
  let res := bif b then 0 else 3
  let params := bif b then [0, 1, 2] else [0, 1, 2, 3, 4, 5]
  dblTest 1 2 (.seq [.op (.setInt res 0), .op (.setInt (res + 1) 0), .op (.setInt (res + 2) 0)] .done)
    fun k => .step (.call (k + b.toNat) params) .done

theorem doubleNonConst_call (b : Bool) (f : Nat) (q j : Jac) :
    callE (f + 1) (iDoubleNonConst + b.toNat) (dblArgs b q j) =
      ((doubleNonConstProg b).run (callE f) [] (dblArgs b q j)).map (·.take (dblArgs b q j).length) := by
  cases b
  · exact callE_prog f _ _ DoubleNonConst _ rfl (by decide +kernel)
  · exact callE_prog f _ _ DoubleNonConst_a00 _ rfl (by decide +kernel)

/-- what DoubleNonConst does, in place or not: zero for Y = 0 or Z = 0, else the answer of the
    routine it selects -/
theorem doubleNonConst_run (b : Bool) (f X Y Z : Nat) (j : Jac) :
    (Y = 0 ∨ Z = 0 → callE (f + 1) (iDoubleNonConst + b.toNat) (dblArgs b (X, Y, Z) j) =
      some (dblOuts b (X, Y, Z) (0, 0, 0))) ∧
    (Y ≠ 0 → Z ≠ 0 → ∀ r,
      callE f (dsel Z + b.toNat) (dblArgs b (X, Y, Z) j) = some (dblOuts b (X, Y, Z) r) →
      callE (f + 1) (iDoubleNonConst + b.toNat) (dblArgs b (X, Y, Z) j) = some (dblOuts b (X, Y, Z) r)) := by
  simp only [doubleNonConst_call, doubleNonConstProg, dblTest_run]
  refine ⟨fun h => ?_, fun hY hZ r hr => ?_⟩
  · have h' : (Y == 0 || Z == 0) = true := by simpa using h
    cases b <;> run_simp [h']
  · have h' : (Y == 0 || Z == 0) = false := by simp [hY, hZ]
    cases b <;> run_simp [h', Prog.run_call] <;>
      simp only [dblArgs, dblOuts, Bool.toNat, cond_true, cond_false] at hr <;> rw [hr] <;> rfl

theorem dblRoutine_run (f X Y Z : Nat) :
    ∃ X3 Y3 Z3, (∀ b, DblCall b (f + 1) (dsel Z) (X, Y, Z) (X3, Y3, Z3)) ∧ Bnd (X3, Y3, Z3) ∧
      (X3 : F) = dbX X Y ∧ (Y3 : F) = dbY X Y ∧ (Z3 : F) = dbZ Y Z := by
  unfold dsel
  split
  · next h => subst h; exact doubleZ1EqualsOne_run f X Y
  · exact doubleGeneric_run f X Y Z

/-- two units of call depth: one for DoubleNonConst, one for the routine it calls -/
theorem doubleNonConst_contract (f : Nat) :
    DblContract fun q r => ∀ b, DblCall b (f + 2) iDoubleNonConst q r := by
  rintro ⟨X, Y, Z⟩ hq
  by_cases h0 : Y = 0 ∨ Z = 0
  · exact ⟨(0, 0, 0), fun b j => (doubleNonConst_run b (f + 1) X Y Z j).1 h0, dbl_ok_zero hq h0⟩
  · have hY : Y ≠ 0 := fun h => h0 (Or.inl h)
    have hZ : Z ≠ 0 := fun h => h0 (Or.inr h)
    obtain ⟨X3, Y3, Z3, hrun, hb, eX, eY, eZ⟩ := dblRoutine_run f X Y Z
    exact ⟨(X3, Y3, Z3), fun b j => (doubleNonConst_run b (f + 1) X Y Z j).2 hY hZ _ (hrun b j),
      dbl_ok_poly hq hY hZ hb eX eY eZ⟩

theorem dblNC_of_run {q r : Jac} (h : DblCall true 8 iDoubleNonConst q r) : dblNC q = r :=
  triple_of_callE (a := 0) idx_DoubleNonConst_a00 (h (0, 0, 0)) (by simp [dblArgs])

theorem dblNC3_of_run {q r : Jac} (h : DblCall false 8 iDoubleNonConst q r) : dblNC3 q = r :=
  triple_of_callE (a := 3) idx_DoubleNonConst (h (0, 0, 0)) (by simp [dblArgs])

end Secp.Proofs.PointOps
