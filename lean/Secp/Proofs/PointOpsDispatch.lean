import Secp.Proofs.PointOpsBase
import Secp.Model.Ecdsa
/-
  Proofs/PointOpsDispatch — AddNonConst in its three aliasing patterns is one program
  (`addNonConstProg`, the Go function written as tests and calls) instantiated at three register
  layouts; what it does is read off the program, not off its 37 paths.
-/

namespace Secp.Proofs.PointOps
open Secp.Model Secp.FOp
open Secp.Gen.FormulasC

variable (callF : Nat → List Nat → Option (List Nat)) (bools : List Bool)

/-- Go's `(x.IsZero() && y.IsZero()) || z.IsZero()`, evaluated left to right -/
def infTest (x y z : Nat) (inf fin : Prog) : Prog :=
  .test (.isZero x) (.test (.isZero y) inf (.test (.isZero z) inf fin)) (.test (.isZero z) inf fin)

theorem infTest_run (x y z : Nat) (inf fin : Prog) (r : Regs) :
    (infTest x y z inf fin).run callF bools r =
      bif isInfJ (rget r x, rget r y, rget r z) then inf.run callF bools r else fin.run callF bools r := by
  simp only [infTest, Prog.run, condF, isInfJ]
  cases rget r x == 0 <;> cases rget r y == 0 <;> cases rget r z == 0 <;> rfl

/-- the routine AddNonConst selects for operands with these Z coordinates (position of its
    distinct-result entry) -/
def sel (Z1 Z2 : Nat) : Nat :=
  if Z1 = 1 ∧ Z2 = 1 then iAddZ1AndZ2EqualsOne else if Z1 = Z2 then iAddZ1EqualsZ2
  else if Z2 = 1 then iAddZ2EqualsOne else iAddGeneric

/-- Go's `isZ1One := ..; isZ2One := ..; switch { case isZ1One && isZ2One: .. case z1.Equals(z2): ..
    case isZ2One: .. }` followed by the default -/
def selTest (z1 z2 : Nat) (k : Nat → Prog) : Prog :=
  .test (.isOne z1)
    (.test (.isOne z2) (k iAddZ1AndZ2EqualsOne)
      (.test (.equals z1 z2) (k iAddZ1EqualsZ2) (k iAddGeneric)))
    (.test (.isOne z2) (.test (.equals z1 z2) (k iAddZ1EqualsZ2) (k iAddZ2EqualsOne))
      (.test (.equals z1 z2) (k iAddZ1EqualsZ2) (k iAddGeneric)))

theorem selTest_run (z1 z2 : Nat) (k : Nat → Prog) (r : Regs) :
    (selTest z1 z2 k).run callF bools r = (k (sel (rget r z1) (rget r z2))).run callF bools r := by
  simp only [selTest, Prog.run, condF, sel, Bool.beq_eq_decide_eq, ← Bool.cond_decide, Bool.decide_and]
  cases decide (rget r z1 = 1) <;> cases decide (rget r z2 = 1) <;>
    cases decide (rget r z1 = rget r z2) <;> rfl

/-- `AddNonConst` of curve.go with the result in registers `res ..` and callees `.. + ofs` -/
def addNonConstProg (a : Alias) : Prog :=
  let copy (src : Nat) : Prog :=
    .seq [.op (.set a.res src), .op (.set (a.res + 1) (src + 1)), .op (.set (a.res + 2) (src + 2))] .done
  infTest 0 1 2 (copy 3) <| infTest 3 4 5 (copy 0) <|
    selTest 2 5 fun k => .step (.call (k + a.ofs) a.params) .done

theorem addNonConst_call (a : Alias) (f : Nat) (q p j : Jac) :
    callE (f + 1) (iAddNonConst + a.ofs) (a.args q p j) =
      ((addNonConstProg a).run (callE f) [] (a.args q p j)).map (·.take (a.args q p j).length) := by
  cases a
  · exact callE_prog f _ _ AddNonConst _ rfl (by decide +kernel)
  · exact callE_prog f _ _ AddNonConst_a010 _ rfl (by decide +kernel)
  · exact callE_prog f _ _ AddNonConst_a011 _ rfl (by decide +kernel)

/-- what AddNonConst does, in any layout: the other operand if one is the identity, else the
    selected routine's answer -/
theorem addNonConst_run (a : Alias) (f : Nat) (q p j : Jac) :
    (isInfJ q = true → callE (f + 1) (iAddNonConst + a.ofs) (a.args q p j) = some (a.outs q p p)) ∧
    (isInfJ q = false → isInfJ p = true →
      callE (f + 1) (iAddNonConst + a.ofs) (a.args q p j) = some (a.outs q p q)) ∧
    (isInfJ q = false → isInfJ p = false → ∀ r,
      callE f (sel q.2.2 p.2.2 + a.ofs) (a.args q p j) = some (a.outs q p r) →
      callE (f + 1) (iAddNonConst + a.ofs) (a.args q p j) = some (a.outs q p r)) := by
  obtain ⟨X1, Y1, Z1⟩ := q
  obtain ⟨X2, Y2, Z2⟩ := p
  refine ⟨fun hq => ?_, fun hq hp => ?_, fun hq hp r hr => ?_⟩
  · rw [addNonConst_call, addNonConstProg, infTest_run]
    cases a <;> simp only [Alias.args, rget_cons_zero, rget_cons_succ, hq, cond_true] <;> rfl
  · rw [addNonConst_call, addNonConstProg, infTest_run, infTest_run]
    cases a <;> simp only [Alias.args, rget_cons_zero, rget_cons_succ, hq, hp, cond_true, cond_false] <;> rfl
  · rw [addNonConst_call, addNonConstProg, infTest_run, infTest_run, selTest_run, Prog.run_call]
    cases a <;>
      simp only [Alias.args, rget_cons_zero, rget_cons_succ, hq, hp, cond_false, Alias.params, List.map] <;>
      simp only [Alias.args] at hr <;> rw [hr] <;> rfl

end Secp.Proofs.PointOps
