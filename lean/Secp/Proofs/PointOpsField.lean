import Secp.Proofs.ScalarMultJac
/-
  Proofs/PointOpsField — the Jacobian formulas of curve.go as polynomials over `ZMod P`
  (add-2007-bl and its Z-specialisations, zadd-2007-m, dbl-2009-l) and the chord / tangent
  identities they satisfy.  None of these identities uses the curve equation.
-/

namespace Secp.Proofs.PointOps
open Secp.Spec Secp.Proofs.SpecGroup

macro "cast_simp" : tactic =>
  `(tactic| simp only [ZMod.natCast_mod, fmul_cast, fadd_cast, fneg_cast, fsq_cast_pow, Nat.cast_ofNat,
    Nat.cast_one, Nat.cast_zero])

/-- `dbX`, `dbY`, `dbZ`: dbl-2009-l (a = 0) of the Explicit-Formulas Database -/
def dbX (x y : F) : F := 9 * x ^ 4 - 8 * x * y ^ 2
def dbY (x y : F) : F := 3 * x ^ 2 * (4 * x * y ^ 2 - dbX x y) - 8 * y ^ 4
def dbZ (y z : F) : F := 2 * y * z

theorem dbl_tangent (x y Z : F) (hy : y ≠ 0) (hZ : Z ≠ 0) :
    dbZ (y * Z ^ 3) Z ≠ 0 ∧
    dbX (x * Z ^ 2) (y * Z ^ 3) = tgX x y * dbZ (y * Z ^ 3) Z ^ 2 ∧
    dbY (x * Z ^ 2) (y * Z ^ 3) = tgY x y * dbZ (y * Z ^ 3) Z ^ 3 := by
  have h2 := two_ne_zero_P
  refine ⟨?_, ?_, ?_⟩
  · unfold dbZ
    exact mul_ne_zero (mul_ne_zero h2 (mul_ne_zero hy (pow_ne_zero _ hZ))) hZ
  · unfold dbX tgX dbZ
    field_simp
    ring
  · unfold dbY tgY dbX tgX dbZ
    field_simp
    ring

/-- `agX`, `agY`, `agZ`: add-2007-bl -/
def agX (X1 Y1 Z1 X2 Y2 Z2 : F) : F :=
  (2 * (Y2 * Z1 ^ 3 - Y1 * Z2 ^ 3)) ^ 2 - (X2 * Z1 ^ 2 - X1 * Z2 ^ 2) * (2 * (X2 * Z1 ^ 2 - X1 * Z2 ^ 2)) ^ 2
    - 2 * (X1 * Z2 ^ 2 * (2 * (X2 * Z1 ^ 2 - X1 * Z2 ^ 2)) ^ 2)
def agY (X1 Y1 Z1 X2 Y2 Z2 : F) : F :=
  (2 * (Y2 * Z1 ^ 3 - Y1 * Z2 ^ 3)) * (X1 * Z2 ^ 2 * (2 * (X2 * Z1 ^ 2 - X1 * Z2 ^ 2)) ^ 2 - agX X1 Y1 Z1 X2 Y2 Z2)
    - 2 * (Y1 * Z2 ^ 3) * ((X2 * Z1 ^ 2 - X1 * Z2 ^ 2) * (2 * (X2 * Z1 ^ 2 - X1 * Z2 ^ 2)) ^ 2)
def agZ (X1 Z1 X2 Z2 : F) : F := 2 * Z1 * Z2 * (X2 * Z1 ^ 2 - X1 * Z2 ^ 2)

/-- the output triple represents the chord point, whatever affine point the inputs represent -/
def ChordRep (X1 Y1 Z1 X2 Y2 Z2 X3 Y3 Z3 : F) : Prop :=
  ∀ x1 y1 x2 y2 : F, X1 = x1 * Z1 ^ 2 → Y1 = y1 * Z1 ^ 3 → X2 = x2 * Z2 ^ 2 → Y2 = y2 * Z2 ^ 3 →
    Z1 ≠ 0 → Z2 ≠ 0 → x1 ≠ x2 →
    Z3 ≠ 0 ∧ X3 = chX x1 y1 x2 y2 * Z3 ^ 2 ∧ Y3 = chY x1 y1 x2 y2 * Z3 ^ 3

theorem chordRep_addG (X1 Y1 Z1 X2 Y2 Z2 : F) :
    ChordRep X1 Y1 Z1 X2 Y2 Z2 (agX X1 Y1 Z1 X2 Y2 Z2) (agY X1 Y1 Z1 X2 Y2 Z2) (agZ X1 Z1 X2 Z2) := by
  intro x1 y1 x2 y2 hX1 hY1 hX2 hY2 hZ1 hZ2 hne
  subst hX1 hY1 hX2 hY2
  have h2 := two_ne_zero_P
  have hd : x2 - x1 ≠ 0 := sub_ne_zero.2 (Ne.symm hne)
  have hH : x2 * Z2 ^ 2 * Z1 ^ 2 - x1 * Z1 ^ 2 * Z2 ^ 2 = (x2 - x1) * Z1 ^ 2 * Z2 ^ 2 := by ring
  refine ⟨?_, ?_, ?_⟩
  · unfold agZ
    rw [hH]
    exact mul_ne_zero (mul_ne_zero (mul_ne_zero h2 hZ1) hZ2)
      (mul_ne_zero (mul_ne_zero hd (pow_ne_zero _ hZ1)) (pow_ne_zero _ hZ2))
  · unfold agX chX agZ
    field_simp
    ring
  · unfold agY chY agX chX agZ
    field_simp
    ring

/-- `azX`, `azY`, `azZ`: zadd-2007-m (Z1 = Z2) -/
def azX (X1 Y1 X2 Y2 : F) : F := (Y2 - Y1) ^ 2 - X1 * (X2 - X1) ^ 2 - X2 * (X2 - X1) ^ 2
def azY (X1 Y1 X2 Y2 : F) : F :=
  (Y2 - Y1) * (X1 * (X2 - X1) ^ 2 - azX X1 Y1 X2 Y2) - Y1 * (X2 * (X2 - X1) ^ 2 - X1 * (X2 - X1) ^ 2)
def azZ (X1 Z1 X2 : F) : F := Z1 * (X2 - X1)

theorem chordRep_addZ (X1 Y1 Z X2 Y2 : F) :
    ChordRep X1 Y1 Z X2 Y2 Z (azX X1 Y1 X2 Y2) (azY X1 Y1 X2 Y2) (azZ X1 Z X2) := by
  intro x1 y1 x2 y2 hX1 hY1 hX2 hY2 hZ1 _ hne
  subst hX1 hY1 hX2 hY2
  have hd : x2 - x1 ≠ 0 := sub_ne_zero.2 (Ne.symm hne)
  have hH : x2 * Z ^ 2 - x1 * Z ^ 2 = (x2 - x1) * Z ^ 2 := by ring
  refine ⟨?_, ?_, ?_⟩
  · unfold azZ
    rw [hH]
    exact mul_ne_zero hZ1 (mul_ne_zero hd (pow_ne_zero _ hZ1))
  · unfold azX chX azZ
    field_simp
  · unfold azY chY azX chX azZ
    field_simp

end Secp.Proofs.PointOps
