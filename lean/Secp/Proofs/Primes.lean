import Secp.Spec.Field
import Mathlib.NumberTheory.LucasPrimality
import Mathlib.Data.List.Prime
/-
  Proofs/Primes — `powMod` correctness and Pratt (Lucas) primality certificates for the secp256k1
  field prime P and group order N: a checker (`certOK`) with its soundness theorem, and one
  certificate (the table `cert`, printed by tools/pratt/gen_pratt.py) that the kernel evaluates once.
-/

namespace Secp.Proofs
open Secp.Spec

theorem powModAux_eq (m : Nat) : ∀ (f b e : Nat), e < 2 ^ f → powModAux m f b e = b ^ e % m
  | 0, b, e, h => by
    obtain rfl : e = 0 := by simpa using h
    simp [powModAux]
  | f + 1, b, e, h => by
    have e2 : b ^ e = b ^ (e % 2) * (b * b) ^ (e / 2) := by
      rw [← pow_two, ← pow_mul, ← pow_add, Nat.mod_add_div]
    rw [powModAux, powModAux_eq m f _ _ (by rw [pow_succ] at h; omega), ← Nat.pow_mod, e2]
    rcases Nat.mod_two_eq_zero_or_one e with ho | ho
    · by_cases he : e = 0 <;> simp [he, ho]
    · have he : e ≠ 0 := by omega
      simp [he, ho, Nat.mul_mod]

theorem powMod_eq (b e m : Nat) : powMod b e m = b ^ e % m := by
  unfold powMod
  exact powModAux_eq m _ b e Nat.lt_log2_self

theorem zmod_pow_eq_one_iff {p : Nat} (hp1 : p ≠ 1) (a k : Nat) :
    ((a : ZMod p) ^ k = 1) ↔ powMod a k p = 1 := by
  rw [powMod_eq, ← Nat.cast_pow, ← Nat.cast_one (R := ZMod p), ZMod.natCast_eq_natCast_iff',
    Nat.one_mod_eq_one.2 hp1]

theorem pratt (p a : Nat) (fs : List (Nat × Nat))
    (hprod : (fs.map (fun x => x.1 ^ x.2)).prod = p - 1)
    (hprime : ∀ x ∈ fs, Nat.Prime x.1)
    (h1 : powMod a (p - 1) p = 1)
    (hq : ∀ x ∈ fs, powMod a ((p - 1) / x.1) p ≠ 1) : Nat.Prime p := by
  have hp1 : p ≠ 1 := by
    rintro rfl
    simp [powMod_eq] at h1
  refine lucas_primality p (a : ZMod p) ((zmod_pow_eq_one_iff hp1 a _).2 h1) ?_
  intro q hqp hdvd
  rw [← hprod, Nat.Prime.prime hqp |>.dvd_prod_iff] at hdvd
  obtain ⟨y, hy, hqy⟩ := hdvd
  obtain ⟨x, hx, rfl⟩ := List.mem_map.1 hy
  have hqx : q ∣ x.1 := hqp.dvd_of_dvd_pow hqy
  have hqe : q = x.1 := (Nat.prime_dvd_prime_iff_eq hqp (hprime x hx)).1 hqx
  rw [Ne, zmod_pow_eq_one_iff hp1, hqe]
  exact hq x hx

def trialPrime (q : Nat) : Bool :=
  2 ≤ q && (List.range (q.sqrt + 1)).all fun d => d < 2 || q % d != 0

theorem trialPrime_sound {q : Nat} (h : trialPrime q = true) : q.Prime := by
  simp only [trialPrime, Bool.and_eq_true, decide_eq_true_eq, List.all_eq_true, List.mem_range,
    Bool.or_eq_true, bne_iff_ne] at h
  refine Nat.prime_def_le_sqrt.2 ⟨h.1, fun m hm hle hdvd => ?_⟩
  rcases h.2 m (by omega) with h2 | h2
  · omega
  · exact h2 (Nat.mod_eq_zero_of_dvd hdvd)

/-- one line of a certificate: `p`, a witness `a` of order `p − 1`, the factorisation of `p − 1` -/
abbrev Line := Nat × Nat × List (Nat × Nat)

/-- the hypotheses of `pratt`, with every prime factor either certified by an earlier line or small -/
def lineOK (known : List Nat) : Line → Bool
  | (p, a, fs) =>
    (fs.map fun x => x.1 ^ x.2).prod == p - 1 && powMod a (p - 1) p == 1 &&
      fs.all fun x => (known.contains x.1 || trialPrime x.1) && powMod a ((p - 1) / x.1) p != 1

def certOK : List Nat → List Line → Bool
  | _, [] => true
  | known, l :: ls => lineOK known l && certOK (l.1 :: known) ls

theorem certOK_sound : ∀ (ls : List Line) (known : List Nat), (∀ q ∈ known, q.Prime) →
    certOK known ls = true → ∀ p ∈ ls.map (·.1), p.Prime := by
  intro ls
  induction ls with
  | nil => intro _ _ _ p hp; simp at hp
  | cons l ls ih =>
    intro known hk h p hp
    obtain ⟨q, a, fs⟩ := l
    simp only [certOK, lineOK, Bool.and_eq_true, beq_iff_eq, bne_iff_ne, List.all_eq_true,
      Bool.or_eq_true, List.contains_iff_mem] at h
    obtain ⟨⟨⟨hprod, h1⟩, hfs⟩, hrest⟩ := h
    have hq : q.Prime := pratt q a fs hprod
      (fun x hx => (hfs x hx).1.elim (hk _) trialPrime_sound) h1
      fun x hx => (hfs x hx).2
    rcases List.mem_cons.1 hp with rfl | hp
    · exact hq
    · exact ih (q :: known) (fun r hr => (List.mem_cons.1 hr).elim (· ▸ hq) (hk r)) hrest p hp

/-- the primes ≥ 10^6 in the Pratt trees of P and N, factors before the numbers they certify -/
def cert : List Line := [
  (13331831, 13, [(2, 1), (5, 1), (971, 1), (1373, 1)]),
  (173378833005251801, 6, [(2, 3), (5, 2), (2621, 1), (24809, 1), (13331831, 1)]),
  (22149492674086928081353, 5, [(2, 3), (3, 1), (5323, 1), (173378833005251801, 1)]),
  (132896956044521568488119, 6, [(2, 1), (3, 1), (22149492674086928081353, 1)]),
  (1206781, 10, [(2, 2), (3, 1), (5, 1), (20113, 1)]),
  (7240687, 3, [(2, 1), (3, 1), (1206781, 1)]),
  (107590001, 3, [(2, 4), (5, 4), (7, 1), (29, 1), (53, 1)]),
  (255515944373312847190720520512484175977, 3, [(2, 3), (7, 2), (11, 1), (1627, 1), (2657, 1), (4423, 1), (41201, 1), (96557, 1), (7240687, 1), (107590001, 1)]),
  (205115282021455665897114700593932402728804164701536103180137503955397371, 10, [(2, 1), (3, 1), (5, 1), (29, 2), (31, 1), (7723, 1), (132896956044521568488119, 1), (255515944373312847190720520512484175977, 1)]),
  (115792089237316195423570985008687907853269984665640564039457584007908834671663, 3, [(2, 1), (3, 1), (7, 1), (13441, 1), (205115282021455665897114700593932402728804164701536103180137503955397371, 1)]),
  (4681609, 23, [(2, 3), (3, 1), (97, 1), (2011, 1)]),
  (107361793816595537, 3, [(2, 4), (16699, 1), (85831, 1), (4681609, 1)]),
  (44706919, 6, [(2, 1), (3, 1), (797, 1), (9349, 1)]),
  (174723607534414371449, 3, [(2, 3), (17, 1), (59, 1), (4051, 1), (120233, 1), (44706919, 1)]),
  (545358713, 5, [(2, 3), (41, 1), (59, 1), (28181, 1)]),
  (1627771, 3, [(2, 1), (3, 1), (5, 1), (29, 1), (1871, 1)]),
  (297159362677, 2, [(2, 2), (3, 2), (11, 1), (461, 1), (1627771, 1)]),
  (29047611873442575647497758179, 2, [(2, 1), (293, 1), (305873, 1), (545358713, 1), (297159362677, 1)]),
  (341948486974166000522343609283189, 2, [(2, 2), (3, 3), (109, 1), (29047611873442575647497758179, 1)]),
  (115792089237316195423570985008687907852837564279074904382605163141518161494337, 7, [(2, 6), (3, 1), (149, 1), (631, 1), (107361793816595537, 1), (174723607534414371449, 1), (341948486974166000522343609283189, 1)])]

theorem cert_ok : certOK [] cert = true := by decide +kernel

theorem P_prime : Nat.Prime Secp.Spec.P :=
  certOK_sound cert [] (by simp) cert_ok _ (by decide +kernel)

theorem N_prime : Nat.Prime Secp.Spec.N :=
  certOK_sound cert [] (by simp) cert_ok _ (by decide +kernel)

instance instFactPPrime : Fact (Nat.Prime Secp.Spec.P) := ⟨P_prime⟩
instance instFactNPrime : Fact (Nat.Prime Secp.Spec.N) := ⟨N_prime⟩

end Secp.Proofs
