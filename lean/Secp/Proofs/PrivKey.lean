import Secp.Model.PrivKey
import Secp.Proofs.Buffers
/-
  Proofs/PrivKey — the key-generation loop of the model (Props/C19): one step (`go_succ`) and what the loop returns
  (`go_spec`: the first whole 32-byte block that is a key, or the read error at the end of the stream); and
  `PrivKeyFromBytes`.
-/
namespace Secp.Proofs.PrivKey
open Secp.Spec Secp.Model

/-- core `Except` has no `DecidableEq`; the closed examples in Props/C19 are checked by `decide` -/
instance instDecidableEqExcept {ε α : Type} [DecidableEq ε] [DecidableEq α] :
    DecidableEq (Except ε α)
  | .ok a, .ok b => if h : a = b then isTrue (by rw [h]) else isFalse (by intro h'; cases h'; exact h rfl)
  | .error a, .error b => if h : a = b then isTrue (by rw [h]) else isFalse (by intro h'; cases h'; exact h rfl)
  | .ok _, .error _ => isFalse (by intro h; cases h)
  | .error _, .ok _ => isFalse (by intro h; cases h)

theorem go_succ (fuel : Nat) (r : Reader) (used : Nat) :
    generatePrivateKey.go (fuel + 1) r used =
      if 32 ≤ r.data.length then
        if 0 < beNat (r.data.take 32) ∧ beNat (r.data.take 32) < N then
          (.ok (beNat (r.data.take 32)), used + 32)
        else generatePrivateKey.go fuel ⟨r.data.drop 32, r.term⟩ (used + 32)
      else
        (.error (if r.data.length = 0 then r.term
                 else if r.term = .eof then .unexpectedEOF else r.term),
         used + r.data.length) := by
  rw [generatePrivateKey.go]
  unfold readFull32
  by_cases h : 32 ≤ r.data.length
  · simp only [ge_iff_le, h, if_true, scalarSetBytes32]
    by_cases hN : N ≤ beNat (r.data.take 32)
    · have : ¬ (beNat (r.data.take 32) < N) := by omega
      simp [hN, this]
    · have h2 : beNat (r.data.take 32) < N := by omega
      simp [hN, h2, Nat.pos_iff_ne_zero]
  · simp only [ge_iff_le, h, if_false]
    by_cases h0 : r.data.length = 0 <;> simp [h0]

/-- `C19.ValidBlock (C19.block data j)`; Props/C19 stands above this file in the import order -/
abbrev blockOk (data : Bytes) (j : Nat) : Prop :=
  0 < beNat ((data.drop (32 * j)).take 32) ∧ beNat ((data.drop (32 * j)).take 32) < N

/-- the loop on the rest of a fixed stream after `n` whole blocks none of which is a key -/
theorem go_from (data : Bytes) (term : IoErr) (fuel : Nat) : ∀ n, 32 * n ≤ data.length →
    (data.length - 32 * n) / 32 < fuel → (∀ i < n, ¬ blockOk data i) →
    (∃ j, 32 * (j + 1) ≤ data.length ∧ blockOk data j ∧ (∀ i < j, ¬ blockOk data i) ∧
      generatePrivateKey.go fuel ⟨data.drop (32 * n), term⟩ (32 * n) =
        (.ok (beNat ((data.drop (32 * j)).take 32)), 32 * (j + 1))) ∨
    ((∀ j, 32 * (j + 1) ≤ data.length → ¬ blockOk data j) ∧
      generatePrivateKey.go fuel ⟨data.drop (32 * n), term⟩ (32 * n) =
        (.error (if data.length % 32 = 0 then term else if term = .eof then .unexpectedEOF else term),
          data.length)) := by
  induction fuel with
  | zero => intro n _ h; omega
  | succ fuel ih =>
    intro n hn hf hall
    have hl : (data.drop (32 * n)).length = data.length - 32 * n := List.length_drop
    rw [go_succ]
    simp only [hl, List.drop_drop, ← Nat.mul_succ]
    by_cases hlen : 32 ≤ data.length - 32 * n
    · by_cases hv : blockOk data n
      · exact .inl ⟨n, by omega, hv, hall, by rw [if_pos hlen, if_pos hv]⟩
      · rw [if_pos hlen, if_neg hv]
        exact ih (n + 1) (by omega) (by omega) fun i hi =>
          (Nat.lt_succ_iff_lt_or_eq.1 hi).elim (hall i) fun e => e ▸ hv
    · refine .inr ⟨fun j hj => hall j (by omega), ?_⟩
      rw [if_neg hlen]
      by_cases h0 : data.length - 32 * n = 0
      · simp [h0, show data.length % 32 = 0 by omega]; omega
      · simp [h0, show data.length % 32 ≠ 0 by omega]; omega

theorem go_spec (fuel : Nat) (data : Bytes) (term : IoErr) (hf : data.length / 32 < fuel) :
    (∃ j, 32 * (j + 1) ≤ data.length ∧ blockOk data j ∧ (∀ i < j, ¬ blockOk data i) ∧
      generatePrivateKey.go fuel ⟨data, term⟩ 0 =
        (.ok (beNat ((data.drop (32 * j)).take 32)), 32 * (j + 1))) ∨
    ((∀ j, 32 * (j + 1) ≤ data.length → ¬ blockOk data j) ∧
      generatePrivateKey.go fuel ⟨data, term⟩ 0 =
        (.error (if data.length % 32 = 0 then term else if term = .eof then .unexpectedEOF else term),
          data.length)) :=
  go_from data term fuel 0 (Nat.zero_le _) hf fun _ hi => absurd hi (Nat.not_lt_zero _)

theorem fromBytes_mod (b : Bytes) : privKeyFromBytes b = beNat (b.take 32) % N :=
  Buffers.scalarSetByteSlice_fst b

end Secp.Proofs.PrivKey
