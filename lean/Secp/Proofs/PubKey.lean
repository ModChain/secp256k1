import Secp.Model.PubKeyRules
import Secp.Proofs.FieldBridge
import Secp.Proofs.Bytes
import Mathlib.Algebra.Ring.Commute
import Mathlib.Tactic.Ring
import Mathlib.Tactic.SplitIfs
/-
  Proofs/PubKey — the model `parsePubKey` against `Spec.ValidSEC1` (Props/C08): the curve equation as the model
  computes it, `decompressY` as "the root of the parity asked for", `parsePubKey` unfolded on its two accepted lengths
  (`parse65_eq`, `parse33_eq`; `length_cases` is the case split every theorem starts with), acceptance ⇔ validity on
  each, and the format test of `schnorr.ParsePubKey`.
-/
namespace Secp.Proofs.PubKey
open Secp.Spec Secp.Model Secp.Proofs.Bytes

/-- `OnCurve` is a closed conjunction of `Nat` comparisons; the non-vacuity example in
    Props/C08 checks it by `decide +kernel` -/
instance instDecidableOnCurve (x y : Nat) : Decidable (OnCurve x y) := by
  unfold OnCurve; infer_instance

theorem rhs_eq (x : Nat) : fadd (fmul (fsq x) x) 7 = (x * x * x + 7) % P := by
  apply eq_of_cast_eq_P (fadd_lt _ _) (Nat.mod_lt _ P_pos)
  rw [fadd_cast, fmul_cast, fsq_cast, ZMod.natCast_mod]
  push_cast
  ring

theorem isOnCurveM_iff (x y : Nat) :
    isOnCurveM x y = true ↔ (y * y) % P = (x * x * x + 7) % P := by
  unfold isOnCurveM
  rw [rhs_eq, beq_iff_eq]
  rfl

/-- no point of the curve has `y = 0` (−7 is not a cube mod P) -/
theorem rhs_ne_zero (x : Nat) : (x * x * x + 7) % P ≠ 0 := by
  intro h
  apply neg7_not_cube
  refine ⟨(x : ZMod P), ?_⟩
  have h0 : ((x * x * x + 7 : Nat) : ZMod P) = ((0 : Nat) : ZMod P) := by
    rw [← mod_P_eq_iff, h, Nat.zero_mod]
  push_cast at h0
  rw [eq_neg_iff_add_eq_zero, ← h0]
  ring

theorem y_ne_zero {x y : Nat} (h : (y * y) % P = (x * x * x + 7) % P) : y ≠ 0 := by
  rintro rfl
  exact rhs_ne_zero x (by rw [← h]; rfl)

/-- secp256k1 has no point with x = 0 (7 is not a square mod P) -/
theorem onCurve_x_ne_zero {x y : Nat} (h : OnCurve x y) : x ≠ 0 := by
  rintro rfl
  exact fsqrt_none (by decide +kernel : fsqrt 7 = none) ⟨y, h.2.2⟩

theorem fneg_eq {c : Nat} (h0 : c ≠ 0) (hc : c < P) : fneg c = P - c := by
  unfold fneg
  rw [Nat.mod_eq_of_lt hc, Nat.mod_eq_of_lt (by omega)]

theorem fneg_par {c : Nat} (h0 : c ≠ 0) (hc : c < P) : (fneg c % 2 == 1) = !(c % 2 == 1) := by
  have := P_mod_four
  rw [fneg_eq h0 hc, Bool.eq_iff_iff]
  simp
  omega

theorem root_cases {y c : Nat} (hy : y < P) (hc : c < P) (h : (y * y) % P = (c * c) % P) :
    y = c ∨ y = fneg c := by
  have h1 : (y : ZMod P) * (y : ZMod P) = (c : ZMod P) * (c : ZMod P) := by
    rw [← Nat.cast_mul, ← Nat.cast_mul]
    exact (mod_P_eq_iff _ _).1 h
  rcases mul_self_eq_mul_self_iff.1 h1 with h2 | h2
  · exact Or.inl (eq_of_cast_eq_P hy hc h2)
  · right
    apply eq_of_cast_eq_P hy (fneg_lt c)
    rw [fneg_cast]
    exact h2

theorem fneg_sq (c : Nat) : (fneg c * fneg c) % P = (c * c) % P := by
  rw [mod_P_eq_iff]
  push_cast
  rw [fneg_cast]
  ring

theorem par_iff (n : Nat) (odd : Bool) :
    ((n % 2 == 1) = odd) ↔ n % 2 = (if odd then 1 else 0) := by
  cases odd <;> simp

theorem pick_iff {c a : Nat} (y : Nat) (odd : Bool) (hc : c < P) (hcc : (c * c) % P = a)
    (ha0 : a ≠ 0) :
    (if ((c % 2 == 1) != odd) = true then fneg c else c) = y ↔
      (y < P ∧ (y * y) % P = a ∧ (y % 2 == 1) = odd) := by
  have hc0 : c ≠ 0 := by
    rintro rfl
    exact ha0 (by rw [← hcc]; rfl)
  have hflip := fneg_par hc0 hc
  constructor
  · -- the root picked has the parity asked for
    rintro rfl
    split_ifs with hcond
    · exact ⟨fneg_lt c, by rw [fneg_sq, hcc],
        by rw [hflip]; revert hcond; cases (c % 2 == 1) <;> cases odd <;> simp⟩
    · exact ⟨hc, hcc, by revert hcond; cases (c % 2 == 1) <;> cases odd <;> simp⟩
  · -- and of the two roots only one has it
    rintro ⟨hy, hyy, rfl⟩
    rcases root_cases hy hc (hyy.trans hcc.symm) with rfl | rfl
    · rw [if_neg (by simp)]
    · rw [if_pos (by rw [hflip]; cases (c % 2 == 1) <;> rfl)]

theorem decompressY_iff (x y : Nat) (odd : Bool) :
    decompressY x odd = some y ↔
      (y < P ∧ (y * y) % P = (x * x * x + 7) % P ∧ (y % 2 == 1) = odd) := by
  unfold decompressY
  simp only [rhs_eq]
  generalize ha : (x * x * x + 7) % P = a
  have ha0 : a ≠ 0 := ha ▸ rhs_ne_zero x
  have haP : a % P = a := by rw [← ha, Nat.mod_mod]
  by_cases hsq : fsq (fsqrtCand a) = a
  · rw [if_pos (by rw [beq_iff_eq]; exact hsq), Option.some_inj]
    exact pick_iff y odd (fsqrtCand_lt a) hsq ha0
  · rw [if_neg (by rw [beq_iff_eq]; exact hsq)]
    constructor
    · intro h; exact absurd h (by simp)
    · rintro ⟨_, hyy, _⟩
      exfalso
      apply hsq
      have := (fsqrtCand_spec a).2 ⟨(y : ZMod P), by
        rw [← Nat.cast_mul]; exact ((mod_P_eq_iff _ _).1 (hyy.trans haP.symm)).symm⟩
      rw [this, haP]

theorem decompressY_none_iff (x : Nat) (odd : Bool) :
    decompressY x odd = none ↔ ¬ ∃ y, y < P ∧ (y * y) % P = (x * x * x + 7) % P := by
  constructor
  · -- of the two roots `y`, `fneg y` one has the parity asked for
    rintro h ⟨y, hy, hyy⟩
    by_cases e : (y % 2 == 1) = odd
    · exact absurd ((decompressY_iff x y odd).2 ⟨hy, hyy, e⟩) (by rw [h]; nofun)
    · refine absurd ((decompressY_iff x (fneg y) odd).2 ⟨fneg_lt y, by rw [fneg_sq, hyy], ?_⟩)
        (by rw [h]; nofun)
      rw [fneg_par (y_ne_zero hyy) hy]
      revert e; cases (y % 2 == 1) <;> cases odd <;> simp
  · intro h
    cases hd : decompressY x odd with
    | none => rfl
    | some y =>
      obtain ⟨hy, hyy, _⟩ := (decompressY_iff x y odd).1 hd
      exact absurd ⟨y, hy, hyy⟩ h

theorem parse65_eq (f : UInt8) (t : Bytes) (ht : t.length = 64) :
    parsePubKey (f :: t) =
      if f ≠ 0x04 ∧ f ≠ 0x06 ∧ f ≠ 0x07 then .err .ErrPubKeyInvalidFormat else
      if beNat (t.take 32) ≥ P then .err .ErrPubKeyXTooBig else
      if beNat (t.drop 32) ≥ P then .err .ErrPubKeyYTooBig else
      if (f = 0x06 ∨ f = 0x07) ∧ ((beNat (t.drop 32) % 2 == 1) != (f == 0x07)) then
        .err .ErrPubKeyMismatchedOddness else
      if ¬ isOnCurveM (beNat (t.take 32)) (beNat (t.drop 32)) then .err .ErrPubKeyNotOnCurve else
      .ok (beNat (t.take 32), beNat (t.drop 32)) := by
  simp [parsePubKey, idx, slice, sliceFrom, fieldSetBytes32, ht]

theorem parse33_eq (f : UInt8) (t : Bytes) (ht : t.length = 32) :
    parsePubKey (f :: t) =
      if f ≠ 0x02 ∧ f ≠ 0x03 then .err .ErrPubKeyInvalidFormat else
      if beNat t ≥ P then .err .ErrPubKeyXTooBig else
      match decompressY (beNat t) (f == 0x03) with
      | none => .err .ErrPubKeyNotOnCurve
      | some y => .ok (beNat t, y) := by
  have h1 : List.take 32 t = t := List.take_of_length_le (by omega)
  have h2 : (f :: t).length = 33 := by rw [List.length_cons, ht]
  unfold parsePubKey
  rw [if_neg (by rw [h2]; decide), if_pos h2]
  simp [idx, slice, fieldSetBytes32, ht, h1]
  split_ifs
  · rfl
  · rfl
  · cases decompressY (beNat t) (f == 3) <;> rfl

theorem parse_other (b : Bytes) (h1 : b.length ≠ 65) (h2 : b.length ≠ 33) :
    parsePubKey b = .err .ErrPubKeyInvalidLen := by
  simp [parsePubKey, h1, h2]

theorem length_cases {motive : Bytes → Prop} (unc : ∀ f t, t.length = 64 → motive (f :: t))
    (cmp : ∀ f t, t.length = 32 → motive (f :: t)) (other : ∀ b, b.length ≠ 65 → b.length ≠ 33 → motive b)
    (b : Bytes) : motive b := by
  by_cases h65 : b.length = 65
  · obtain ⟨f, t, rfl, ht⟩ := List.length_eq_succ_iff.1 h65
    exact unc f t ht
  by_cases h33 : b.length = 33
  · obtain ⟨f, t, rfl, ht⟩ := List.length_eq_succ_iff.1 h33
    exact cmp f t ht
  · exact other b h65 h33

theorem parse65_iff (f : UInt8) (t : Bytes) (x y : Nat) (ht : t.length = 64) :
    parsePubKey (f :: t) = .ok (x, y) ↔
      be32 x ++ be32 y = t ∧ OnCurve x y ∧ (f = 0x04 ∨ (f = 0x06 ∧ y % 2 = 0) ∨ (f = 0x07 ∧ y % 2 = 1)) := by
  rw [parse65_eq f t ht]
  simp only [Outcome.ite_err_eq_ok, Outcome.ok.injEq, Prod.mk.injEq]
  constructor
  · rintro ⟨hf, hx, hy, hpar, hon, rfl, rfl⟩
    have hx' := Nat.not_le.1 hx
    have hy' := Nat.not_le.1 hy
    refine ⟨(Bytes.be32_append_eq_iff (Nat.lt_trans hx' P_lt_pow) (Nat.lt_trans hy' P_lt_pow)).2 ⟨ht, rfl, rfl⟩,
      ⟨hx', hy', (isOnCurveM_iff _ _).1 (not_not.1 hon)⟩, ?_⟩
    have e2 := Nat.mod_two_eq_zero_or_one (beNat (t.drop 32))
    rcases (by simpa only [ne_eq, not_and_or, not_not] using hf : f = 4 ∨ f = 6 ∨ f = 7) with rfl | rfl | rfl
    · exact .inl rfl
    · refine .inr (.inl ⟨rfl, ?_⟩); rcases e2 with e | e
      · exact e
      · rw [e] at hpar; exact absurd ⟨.inl rfl, rfl⟩ hpar
    · refine .inr (.inr ⟨rfl, ?_⟩); rcases e2 with e | e
      · rw [e] at hpar; exact absurd ⟨.inr rfl, rfl⟩ hpar
      · exact e
  · rintro ⟨hb, ⟨hx, hy, hc⟩, hf⟩
    obtain ⟨-, rfl, rfl⟩ := (Bytes.be32_append_eq_iff (Nat.lt_trans hx P_lt_pow) (Nat.lt_trans hy P_lt_pow)).1 hb
    refine ⟨?_, Nat.not_le.2 hx, Nat.not_le.2 hy, ?_, not_not.2 ((isOnCurveM_iff _ _).2 hc), rfl, rfl⟩
    · rcases hf with rfl | ⟨rfl, -⟩ | ⟨rfl, -⟩ <;> decide
    · rcases hf with rfl | ⟨rfl, hp⟩ | ⟨rfl, hp⟩
      · exact fun h => absurd h.1 (by decide)
      · rw [hp]; decide
      · rw [hp]; decide

theorem parse65_of (f : UInt8) (x y : Nat) (h : OnCurve x y)
    (hf : f = 0x04 ∨ (f = 0x06 ∧ y % 2 = 0) ∨ (f = 0x07 ∧ y % 2 = 1)) :
    parsePubKey (f :: be32 x ++ be32 y) = .ok (x, y) :=
  (parse65_iff f (be32 x ++ be32 y) x y (by rw [List.length_append, be32_length, be32_length])).2 ⟨rfl, h, hf⟩

theorem parse33_iff (f : UInt8) (t : Bytes) (x y : Nat) (ht : t.length = 32) :
    parsePubKey (f :: t) = .ok (x, y) ↔
      be32 x = t ∧ OnCurve x y ∧ (f = 0x02 ∧ y % 2 = 0 ∨ f = 0x03 ∧ y % 2 = 1) := by
  rw [parse33_eq f t ht]
  simp only [Outcome.ite_err_eq_ok]
  constructor
  · rintro ⟨hf, hx, hm⟩
    cases hd : decompressY (beNat t) (f == 0x03) with
    | none => rw [hd] at hm; cases hm
    | some y' =>
      rw [hd] at hm; cases hm
      obtain ⟨hy, hc, hp⟩ := (decompressY_iff _ _ _).1 hd
      rw [par_iff] at hp
      refine ⟨be32_beNat ht, ⟨Nat.not_le.1 hx, hy, hc⟩, ?_⟩
      rcases (by simpa only [ne_eq, not_and_or, not_not] using hf : f = 2 ∨ f = 3) with rfl | rfl
      · exact .inl ⟨rfl, hp⟩
      · exact .inr ⟨rfl, hp⟩
  · rintro ⟨rfl, ⟨hx, hy, hc⟩, hf⟩
    have hd : decompressY x (f == 0x03) = some y := by
      refine (decompressY_iff x y _).2 ⟨hy, hc, (par_iff _ _).2 ?_⟩
      rcases hf with ⟨rfl, hp⟩ | ⟨rfl, hp⟩ <;> exact hp
    rw [beNat_be32_of_lt (Nat.lt_trans hx P_lt_pow), hd]
    exact ⟨by rcases hf with ⟨rfl, -⟩ | ⟨rfl, -⟩ <;> decide, Nat.not_le.2 hx, rfl⟩

theorem parse33_of (x y : Nat) (h : OnCurve x y) :
    parsePubKey ((if y % 2 = 1 then (0x03 : UInt8) else 0x02) :: be32 x) = .ok (x, y) := by
  refine (parse33_iff _ (be32 x) x y (be32_length x)).2 ⟨rfl, h, ?_⟩
  by_cases hp : y % 2 = 1
  · rw [if_pos hp]; exact .inr ⟨rfl, hp⟩
  · rw [if_neg hp]; exact .inl ⟨rfl, by omega⟩

theorem parse_of_valid (b : Bytes) (x y : Nat) (h : ValidSEC1 b x y) :
    parsePubKey b = .ok (x, y) := by
  obtain ⟨hc, rfl | rfl | rfl⟩ := h
  · exact parse65_of _ x y hc (Or.inl rfl)
  · apply parse65_of _ x y hc
    by_cases hp : y % 2 = 1
    · rw [if_pos hp]; exact Or.inr (Or.inr ⟨rfl, hp⟩)
    · rw [if_neg hp]; exact Or.inr (Or.inl ⟨rfl, by omega⟩)
  · exact parse33_of x y hc

theorem valid_of_parse (b : Bytes) (x y : Nat) (h : parsePubKey b = .ok (x, y)) :
    ValidSEC1 b x y := by
  induction b using length_cases with
  | unc f t ht =>
    obtain ⟨rfl, hc, hf⟩ := (parse65_iff f t x y ht).1 h
    refine ⟨hc, ?_⟩
    rcases hf with rfl | ⟨rfl, hp⟩ | ⟨rfl, hp⟩
    · left; rfl
    · right; left
      rw [if_neg (by omega)]; rfl
    · right; left
      rw [if_pos hp]; rfl
  | cmp f t ht =>
    obtain ⟨rfl, hc, hf⟩ := (parse33_iff f t x y ht).1 h
    refine ⟨hc, Or.inr (Or.inr ?_)⟩
    rcases hf with ⟨rfl, hp⟩ | ⟨rfl, hp⟩
    · rw [if_neg (by omega)]
    · rw [if_pos hp]
  | other b h65 h33 =>
    rw [parse_other b h65 h33] at h
    cases h

theorem parsePubKey_no_panic (b : Bytes) : parsePubKey b ≠ .panic := by
  induction b using length_cases with
  | unc f t ht => simp [parse65_eq f t ht, Outcome.ite_err_eq_panic]
  | cmp f t ht =>
    rw [parse33_eq f t ht]
    cases decompressY (beNat t) (f == 0x03) <;> simp [Outcome.ite_err_eq_panic]
  | other b h65 h33 => simp [parse_other b h65 h33]

theorem tag_ne {y : Nat} {a b c : UInt8} (ha : a ≠ c) (hb : b ≠ c) {t : Bytes}
    (h : ((if y % 2 = 1 then a else b) :: t)[0]? = some c) : False := by
  have h' : some (if y % 2 = 1 then a else b) = some c := h
  rw [Option.some_inj] at h'
  split_ifs at h'
  · exact ha h'
  · exact hb h'

theorem schnorr_eq (f : UInt8) (t : Bytes) (ht : t.length = 32) :
    schnorrParsePubKey false (f :: t) =
      if f &&& 0xFE ≠ 0x02 then .err .SchnorrWrongType else parsePubKey (f :: t) := by
  simp [schnorrParsePubKey, idx, ht]

theorem schnorr_badsize (b : Bytes) (h : b.length ≠ 33) :
    schnorrParsePubKey false b = .err .SchnorrBadSize := by
  simp [schnorrParsePubKey, h]

end Secp.Proofs.PubKey
