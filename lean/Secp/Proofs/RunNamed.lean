import Secp.Model.ScalarMult
/-
  Proofs/RunNamed — what one level of `runEntryC`, and so `Model.runNamed name`, unfolds to: the
  paths of the entry, its calls answered by the run of the table with one unit less of depth
  (`runEntryC_step`); clients that never look at a call take it as SOME oracle (`runEntryC_succ`,
  `runNamed_eq`); a path runs as its first part, then the rest on the result (`exec_append`).  The
  position of a name in the table is a finite fact about the regenerated table and is evaluated once
  per name, here.  Core-only.
-/
-- under the namespace of Chains.lean, which with PointOpsBase.lean cites these as `Chains.*`
namespace Secp.Proofs.Chains
open Secp.Model Secp.FOp
open Secp.Gen.FormulasC

theorem exec_append {callF : Nat → List Nat → Option (List Nat)} {bools : List Bool}
    (l1 l2 : List PItem) (r : Regs) :
    execPathWith callF bools (l1 ++ l2) r
      = (execPathWith callF bools l1 r).bind (execPathWith callF bools l2) := by
  fun_induction execPathWith callF bools l1 r <;>
    simp only [List.nil_append, List.cons_append, execPathWith, Option.bind_some, Option.bind_none,
      Bool.false_eq_true, ↓reduceIte, *]

theorem runEntryC_step (table : List Entry) (fuel i : Nat) (params : List Nat) (bools : List Bool)
    (e : Entry) (h : table[i]? = some e) (callF : Nat → List Nat → Option (List Nat))
    (hc : ∀ j args, callF j args =
      (runEntryC table fuel j args []).map fun (r, _) => r.take args.length) :
    runEntryC table (fuel + 1) i params bools =
      e.paths.findSome? fun p =>
        (execPathWith callF bools p.items
          (params ++ List.replicate (e.nreg - params.length) 0)).map fun r => (r, p.ret) := by
  obtain rfl : callF = _ := funext fun j => funext fun args => hc j args
  rw [runEntryC, h]

theorem runEntryC_succ (table : List Entry) (fuel i : Nat) (params : List Nat) (bools : List Bool)
    (e : Entry) (h : table[i]? = some e) :
    ∃ callF, runEntryC table (fuel + 1) i params bools =
      e.paths.findSome? fun p =>
        (execPathWith callF bools p.items
          (params ++ List.replicate (e.nreg - params.length) 0)).map fun r => (r, p.ret) :=
  ⟨_, runEntryC_step table fuel i params bools e h _ fun _ _ => rfl⟩

theorem runNamed_eq (name : String) (k : Nat) (e : Entry) (params : List Nat) (bools : List Bool)
    (hk : entryIdx name = k) (he : allEntries[k]? = some e) :
    ∃ callF, runNamed name params bools =
      e.paths.findSome? fun p =>
        (execPathWith callF bools p.items
          (params ++ List.replicate (e.nreg - params.length) 0)).map fun r => (r, p.ret) := by
  unfold runNamed
  rw [hk]
  -- `runNamed` bounds the call depth by 8 (Model/ScalarMult.lean): this level, and 7 for the calls it makes
  exact runEntryC_succ allEntries 7 k params bools e he

/-! Positions in `Gen.FormulasC.allEntries` (the generator prints the entries sorted by name):
0 AddNonConst, 1 AddNonConst_a010, 2 AddNonConst_a011, 3 DecompressY, 4 DoubleNonConst, 5 DoubleNonConst_a00,
6 Inverse, 7 SquareRootVal, 8 ToAffine, 9–11 addGeneric, 12–14 addZ1AndZ2EqualsOne, 15–17 addZ1EqualsZ2,
18–20 addZ2EqualsOne (each with its `_a010`, `_a011` copy), 21–22 doubleGeneric, 23–24 doubleZ1EqualsOne
(each with its `_a00` copy), 25 isOnCurve.  The first nine are the ones the model runs by name
(`runNamed`), each with an `idx_*` fact; the add and double routines are reached through `PItem.call`
with their position. -/

theorem idx_DecompressY : entryIdx "DecompressY" = 3 := by decide +kernel
theorem idx_Inverse : entryIdx "Inverse" = 6 := by decide +kernel
theorem idx_SquareRootVal : entryIdx "SquareRootVal" = 7 := by decide +kernel

end Secp.Proofs.Chains

-- the entry indices of the point routines, under the namespace of their users
namespace Secp.Proofs.PointOps
open Secp.Model

/- the distinct-result entry of each point routine; its aliased copies follow it.  Beyond the facts
   below, a position is used through `PointOps.callE_prog … rfl`, which compares the entry found
   there with the entry meant: after a change of the Go source that moves the table, those fail. -/
abbrev iAddNonConst : Nat := 0
abbrev iDoubleNonConst : Nat := 4
abbrev iAddGeneric : Nat := 9
abbrev iAddZ1AndZ2EqualsOne : Nat := 12
abbrev iAddZ1EqualsZ2 : Nat := 15
abbrev iAddZ2EqualsOne : Nat := 18
abbrev iDoubleGeneric : Nat := 21
abbrev iDoubleZ1EqualsOne : Nat := 23

theorem idx_AddNonConst : entryIdx "AddNonConst" = iAddNonConst := by decide +kernel
theorem idx_AddNonConst_a010 : entryIdx "AddNonConst_a010" = iAddNonConst + 1 := by decide +kernel
theorem idx_AddNonConst_a011 : entryIdx "AddNonConst_a011" = iAddNonConst + 2 := by decide +kernel
theorem idx_DoubleNonConst : entryIdx "DoubleNonConst" = iDoubleNonConst := by decide +kernel
theorem idx_DoubleNonConst_a00 : entryIdx "DoubleNonConst_a00" = iDoubleNonConst + 1 := by decide +kernel
theorem idx_ToAffine : entryIdx "ToAffine" = 8 := by decide +kernel

end Secp.Proofs.PointOps
