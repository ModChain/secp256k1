import Secp.Proofs.ScalarLemmas
import Secp.Proofs.IRIndep
/-
  Proofs/ScalarKernels — what the small `ModNScalar` kernels of C06 (everything except the
  multiplication / wide reductions, which live in Proofs/ScalarMul) need beyond ScalarLemmas: the
  columns of the negation, byte packing and unpacking, which inputs a kernel reads.
-/
namespace Secp.Proofs.ScalarKernels
open Secp.Gen Secp.Limbs Secp.Spec
open Secp.Proofs.ScalarLemmas Secp.Proofs.IRIndep Secp.Radix

theorem _root_.Secp.Limbs.L8.or_eq_zero (a : L8) :
    a.n0 ||| a.n1 ||| a.n2 ||| a.n3 ||| a.n4 ||| a.n5 ||| a.n6 ||| a.n7 = 0 ↔ a.val = 0 := by
  simp only [Nat.or_eq_zero_iff, L8.val]; omega

theorem readsNeg : readsOnlyLast Scalar_NegateVal 8 = true := by decide +kernel

/-- the columns of `N + (2^256 − 1 − a) + 1`, word by word -/
theorem _root_.Secp.Limbs.L8.val_neg (a : L8) (ha : a.U32) :
    val (2^32) [3493216577 + (2 ^ 32 - 1 - a.n0 + 1), 3218235020 + (2 ^ 32 - 1 - a.n1),
      2940772411 + (2 ^ 32 - 1 - a.n2), 3132021990 + (2 ^ 32 - 1 - a.n3), 4294967294 + (2 ^ 32 - 1 - a.n4),
      4294967295 + (2 ^ 32 - 1 - a.n5), 4294967295 + (2 ^ 32 - 1 - a.n6), 4294967295 + (2 ^ 32 - 1 - a.n7)]
      = N + 2^256 - a.val := by
  simp only [L8.U32] at ha
  simp only [L8.val, val, N]; omega

theorem neg_final {M A R c : Nat} (hM : M < 2 ^ 256) (hA : A < M) (hA0 : A ≠ 0) (hR : R < 2 ^ 256)
    (h : R + c * 2 ^ 256 = M + 2 ^ 256 - A) : R < M ∧ R = (M - A) % M := by
  have : R = M - A := by omega
  exact ⟨by omega, by rw [this, Nat.mod_eq_of_lt (by omega)]⟩

theorem neg_word_mask {v s : Nat} (e : v = (s &&& 4294967295) % 2 ^ 32) : v = s % 2 ^ 32 := by
  rw [e, (Nat.and_two_pow_sub_one_eq_mod s 32 : s &&& 4294967295 = _), Nat.mod_mod]

theorem readsSet : readsOnlyLast Scalar_SetBytes 32 = true := by decide +kernel

/-- the word `Radix.pack4` describes, in the ideal semantics in which the scalar SetBytes is read
    (it goes on to reduce): there a shift is a product, without the `% 2^32` of the Go semantics -/
theorem word_of_bytes {v b0 b1 b2 b3 : Nat} (e : v = b0 ||| b1 * 2 ^ 8 ||| b2 * 2 ^ 16 ||| b3 * 2 ^ 24)
    (h0 : b0 < 256) (h1 : b1 < 256) (h2 : b2 < 256) (h3 : b3 < 256) :
    v = val 256 [b0, b1, b2, b3] ∧ v < 2 ^ 32 := by
  rw [e, or_bytes b0 b1 b2 b3 (by omega) (by omega) (by omega)]
  simp only [val]; omega

theorem bytesVal_words (b0 b1 b2 b3 b4 b5 b6 b7 b8 b9 b10 b11 b12 b13 b14 b15 b16 b17 b18 b19 b20 b21 b22 b23
    b24 b25 b26 b27 b28 b29 b30 b31 : Nat) :
    bytesVal [b0, b1, b2, b3, b4, b5, b6, b7, b8, b9, b10, b11, b12, b13, b14, b15, b16, b17, b18, b19, b20,
      b21, b22, b23, b24, b25, b26, b27, b28, b29, b30, b31] =
    (⟨val 256 [b31, b30, b29, b28], val 256 [b27, b26, b25, b24], val 256 [b23, b22, b21, b20],
      val 256 [b19, b18, b17, b16], val 256 [b15, b14, b13, b12], val 256 [b11, b10, b9, b8],
      val 256 [b7, b6, b5, b4], val 256 [b3, b2, b1, b0]⟩ : L8).val := by
  rw [bytesVal_eq_val, L8.val_eq]
  exact val_flatten (k := 4) [[b31, b30, b29, b28], [b27, b26, b25, b24], [b23, b22, b21, b20],
    [b19, b18, b17, b16], [b15, b14, b13, b12], [b11, b10, b9, b8], [b7, b6, b5, b4], [b3, b2, b1, b0]]
    (by simp)

/-- the counterpart of `Radix.split4 32 8 16 24`, with the four bytes as digits base 256 -/
theorem word_split {n v0 v1 v2 v3 : Nat} (hn : n < 2^32) (e0 : v0 = n % 2 ^ 8) (e1 : v1 = n / 2 ^ 8 % 2 ^ 8)
    (e2 : v2 = n / 2 ^ 16 % 2 ^ 8) (e3 : v3 = n / 2 ^ 24 % 2 ^ 8) :
    n = val 256 [v0, v1, v2, v3] ∧ v0 < 256 ∧ v1 < 256 ∧ v2 < 256 ∧ v3 < 256 := by
  simp only [val]; omega

theorem readsAdd2 : readsOnlyLast Scalar_Add2 16 = true := by decide +kernel

end Secp.Proofs.ScalarKernels
