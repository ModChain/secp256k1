import Secp.Proofs.IRRun
import Secp.Proofs.Ind
/-
  Proofs/ScalarLemmas — building blocks for the `ModNScalar` kernels (C06): the two tactics that
  run a scalar kernel and name its SSA values; the words of `N`, `2^256 − N` and `halfN`; the Go
  functions that the translator inlines in several kernels (`overflows`, `reduce256`) as lemmas
  over the SSA equations `ir_steps` produces, with what eight words say about `L8.val` and the
  eight-word carry chain they rest on; byte packing.
-/
namespace Secp.Proofs.ScalarLemmas
open Secp.IR Secp.Limbs Secp.Spec Secp.Radix

-- Run a scalar kernel (only `L8.toList` is unfolded in the inputs) in the Go semantics and name its
-- SSA values.  Hygiene is off: the goal gains `v0, v1, …` with their equations `e0, e1, …` and
-- `hrun`; `run_N` also gives `hW`, the bounds.  The field proofs, `Mul512` and `ScalarMul.mul2_spec`
-- write the same steps out.
set_option hygiene false in
macro "run_W " k:ident inp:term : tactic =>
  `(tactic| (
    have h := kernel_steps_W $k $inp
    simp only [$k:ident, L8.toList, List.reverse_cons, List.reverse_nil, List.nil_append, List.cons_append] at h
    ir_steps h
    have hrun := h.out
    simp only [List.map, evalW, List.getD_cons_succ, List.getD_cons_zero] at hrun
    clear h))

-- the same in the ideal semantics, from the no-wrap certificate of Gen/Bounds
set_option hygiene false in
macro "run_N " k:ident inp:term " with " hin:term ", " hb:term ", " ho:term : tactic =>
  `(tactic| (
    have h := kernel_steps $k $inp _ _ _ $hin $hb $ho
    simp only [$k:ident, L8.toList, List.reverse_cons, List.reverse_nil, List.nil_append, List.cons_append] at h
    ir_steps h
    obtain ⟨hW, hrun⟩ := h.out
    simp only [List.map, evalN, List.getD_cons_succ, List.getD_cons_zero] at hrun
    clear h))

theorem N_words : N = val (2^32) [3493216577, 3218235020, 2940772411, 3132021990, 4294967294,
    4294967295, 4294967295, 4294967295] := rfl

/-- `orderComplementWordZero` … `Three` of modnscalar.go, and the fifth word 1 -/
theorem NC_words : 2 ^ 256 - N = val (2^32) [801750719, 1076732275, 1354194884, 1162945305, 1] := rfl

theorem halfN_words : halfN = val (2^32) [1746608288, 3756601158, 1470386205, 1566010995, 4294967295,
    4294967295, 4294967295, 2147483647] := rfl

theorem N_compl : N + (2 ^ 256 - N) = 2 ^ 256 := by decide

/-- `overflows` (stand-alone and inlined in SetBytes, Add2, reduce385) -/
theorem overflows_chain {n : L8} {v0 v1 v2 v3 v4 v5 v6 v7 v8 v9 v10 v11 v12 v13 v14 v15 v16 : Nat} (hn : n.U32)
  (e0 : v0 = b2n (n.n7 == 4294967295))
  (e1 : v1 = v0 &&& b2n (n.n6 == 4294967295))
  (e2 : v2 = v1 &&& b2n (n.n5 == 4294967295))
  (e3 : v3 = b2n (decide (4294967294 < n.n4)))
  (e4 : v4 = v2 &&& v3)
  (e5 : v5 = v2 &&& b2n (n.n4 == 4294967294))
  (e6 : v6 = b2n (decide (3132021990 < n.n3)))
  (e7 : v7 = v4 ||| v5 &&& v6)
  (e8 : v8 = v5 &&& b2n (n.n3 == 3132021990))
  (e9 : v9 = b2n (decide (2940772411 < n.n2)))
  (e10 : v10 = v7 ||| v8 &&& v9)
  (e11 : v11 = v8 &&& b2n (n.n2 == 2940772411))
  (e12 : v12 = b2n (decide (3218235020 < n.n1)))
  (e13 : v13 = v10 ||| v11 &&& v12)
  (e14 : v14 = v11 &&& b2n (n.n1 == 3218235020))
  (e15 : v15 = b2n (decide (3493216577 ≤ n.n0)))
  (e16 : v16 = v13 ||| v14 &&& v15) :
  Ind v16 (n.val ≥ N) := by
  obtain ⟨h0, h1, h2, h3, h4, h5, h6, h7⟩ := hn
  -- `iK` says what `vK` indicates.  The top three words of N are 2^32 − 1: the input's are equal
  -- to them (`i2`) and cannot exceed them (`top`), so "greater" first arises at word 4
  have i2 := Ind.lex_eq h5 (by decide) (Ind.lex_eq h6 (by decide) (Ind.lex_eq_top e0) e1) e2
  have top : val (2^32) [n.n5, n.n6, n.n7] ≤ val (2^32) [4294967295, 4294967295, 4294967295] :=
    val_cons_le_max h5 rfl (val_cons_le_max h6 rfl (val_cons_le_max h7 rfl (Nat.le_refl _)))
  have i4 := Ind.lex_gt_first h4 (by decide) top i2 e3 e4
  have i5 := Ind.lex_eq h4 (by decide) i2 e5
  have ⟨i7, i8⟩ := Ind.lex_step h3 (by decide) i4 i5 e6 e7 e8
  have ⟨i10, i11⟩ := Ind.lex_step h2 (by decide) i7 i8 e9 e10 e11
  have ⟨i13, i14⟩ := Ind.lex_step h1 (by decide) i10 i11 e12 e13 e14
  rw [L8.val_eq, N_words, L8.toList]
  exact Ind.lex_ge h0 (by decide) i13 i14 e15 e16

theorem _root_.Secp.Limbs.L8.val_snoc (a : L8) (c : Nat) : val (2^32) (a.toList ++ [c]) = a.val + c * 2^256 := by
  simp only [L8.val, L8.toList, List.cons_append, List.nil_append, val]; omega

/-- the columns of `reduce256` -/
theorem _root_.Secp.Limbs.L8.val_fold (n : L8) (o : Nat) :
    val (2^32) [n.n0 + o * 801750719, n.n1 + o * 1076732275, n.n2 + o * 1354194884, n.n3 + o * 1162945305,
      n.n4 + o, n.n5, n.n6, n.n7] = n.val + o * (2^256 - N) := by
  rw [NC_words]; simp only [L8.val, val]; omega

theorem _root_.Secp.Limbs.L8.val_add (a b : L8) :
    val (2^32) [a.n0 + b.n0, a.n1 + b.n1, a.n2 + b.n2, a.n3 + b.n3, a.n4 + b.n4, a.n5 + b.n5, a.n6 + b.n6,
      a.n7 + b.n7] = a.val + b.val := by
  rw [L8.val_eq, L8.val_eq]
  exact val_zipWith_add (xs := a.toList) (ys := b.toList) rfl

theorem _root_.Secp.Limbs.L8.U32.val_inj {a b : L8} (ha : a.U32) (hb : b.U32) :
    a.val = b.val ↔ a.toList = b.toList := by
  rw [L8.val_eq, L8.val_eq]
  exact ⟨Radix.val_inj rfl ha.allLt hb.allLt, fun h => h ▸ rfl⟩

theorem _root_.Secp.Limbs.L8.U32.val_lt {a : L8} (h : a.U32) : a.val < 2 ^ 256 := by
  rw [L8.val_eq]
  exact Nat.lt_of_lt_of_eq (val_lt_pow h.allLt) (by decide : (2 ^ 32) ^ 8 = 2 ^ 256)

/-- the base is a variable in the equations, here and below: a signature with many numerals `2 ^ 32`
    is dear to elaborate -/
theorem chain8 {B c1 c2 c3 c4 c5 c6 c7 v0 v1 v2 v3 v4 v5 v6 v7 v8 v9 v10 v11 v12 v13 v14 v15 : Nat}
  (e1 : v1 = v0 % B)
  (e2 : v2 = v0 / B + c1)
  (e3 : v3 = v2 % B)
  (e4 : v4 = v2 / B + c2)
  (e5 : v5 = v4 % B)
  (e6 : v6 = v4 / B + c3)
  (e7 : v7 = v6 % B)
  (e8 : v8 = v6 / B + c4)
  (e9 : v9 = v8 % B)
  (e10 : v10 = v8 / B + c5)
  (e11 : v11 = v10 % B)
  (e12 : v12 = v10 / B + c6)
  (e13 : v13 = v12 % B)
  (e14 : v14 = v12 / B + c7)
  (e15 : v15 = v14 % B) (hB : B = 2 ^ 32 := by rfl) :
  (⟨v1, v3, v5, v7, v9, v11, v13, v15⟩ : L8).val + v14 / B * 2^256 = val (2^32) [v0, c1, c2, c3, c4, c5, c6, c7] ∧
  (⟨v1, v3, v5, v7, v9, v11, v13, v15⟩ : L8).U32 := by
  subst hB
  exact ⟨(L8.val_snoc ⟨v1, v3, v5, v7, v9, v11, v13, v15⟩ _).symm.trans
      (carry_step e1 e2 <| carry_step e3 e4 <| carry_step e5 e6 <| carry_step e7 e8 <|
        carry_step e9 e10 <| carry_step e11 e12 <| carry_step e13 e14 <| carry_last e15 rfl),
    digit_lt e1, digit_lt e3, digit_lt e5, digit_lt e7, digit_lt e9, digit_lt e11, digit_lt e13, digit_lt e15⟩

/-- `reduce256` (stand-alone and inlined in SetBytes / Add2 / reduce385) -/
theorem reduce256_chain {n : L8} {B o v0 v1 v2 v3 v4 v5 v6 v7 v8 v9 v10 v11 v12 v13 v14 v15 : Nat}
  (e0 : v0 = n.n0 + o * 801750719)
  (e1 : v1 = v0 % B)
  (e2 : v2 = v0 / B + (n.n1 + o * 1076732275))
  (e3 : v3 = v2 % B)
  (e4 : v4 = v2 / B + (n.n2 + o * 1354194884))
  (e5 : v5 = v4 % B)
  (e6 : v6 = v4 / B + (n.n3 + o * 1162945305))
  (e7 : v7 = v6 % B)
  (e8 : v8 = v6 / B + (n.n4 + o))
  (e9 : v9 = v8 % B)
  (e10 : v10 = v8 / B + n.n5)
  (e11 : v11 = v10 % B)
  (e12 : v12 = v10 / B + n.n6)
  (e13 : v13 = v12 % B)
  (e14 : v14 = v12 / B + n.n7)
  (e15 : v15 = v14 % B) (hB : B = 2 ^ 32 := by rfl) :
  (⟨v1, v3, v5, v7, v9, v11, v13, v15⟩ : L8).val + v14 / B * 2^256 = n.val + o * (2^256 - N) ∧
  (⟨v1, v3, v5, v7, v9, v11, v13, v15⟩ : L8).U32 :=
  (chain8 e1 e2 e3 e4 e5 e6 e7 e8 e9 e10 e11 e12 e13 e14 e15 hB).imp_left (·.trans (e0 ▸ n.val_fold o))

theorem or_bytes (b0 b1 b2 b3 : Nat) (h0 : b0 ≤ 255) (h1 : b1 ≤ 255) (h2 : b2 ≤ 255) :
    b0 ||| b1 * 2 ^ 8 ||| b2 * 2 ^ 16 ||| b3 * 2 ^ 24 = b0 + b1 * 2 ^ 8 + b2 * 2 ^ 16 + b3 * 2 ^ 24 := by
  rw [or_shift b0 b1 8 (by omega), or_shift _ b2 16 (by omega), or_shift _ b3 24 (by omega)]

end Secp.Proofs.ScalarLemmas
