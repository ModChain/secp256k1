import Secp.Proofs.ScalarReduce
import Secp.Gen.Bounds
import Secp.Proofs.IRIndep
/-
  Proofs/ScalarMul — C06: reduce385, reduce512 and Mul2 of ModNScalar.

  Each kernel is run in the ideal semantics (`kernel_steps` + the interval certificates of
  Gen/Bounds), destructured into its SSA equations (`ir_steps`), and the equations are handed to
  `fold512` and `tail385` of Proofs/ScalarReduce; the fifteen product columns of `Mul2` are one
  more carry chain.  The receiver words are never read by these kernels
  (`IRIndep.readsOnlyLast`, decided on the regenerated kernel), so they are unconstrained.
-/
namespace Secp.Proofs.ScalarMul
open Secp.IR Secp.Gen Secp.Gen.Bounds Secp.Proofs.IRRun Secp.Limbs Secp.Spec Secp.Radix
open Secp.Proofs.ScalarLemmas Secp.Proofs.ScalarReduce Secp.Proofs.IRIndep

theorem N_lit : N = 115792089237316195423570985008687907852837564279074904382605163141518161494337 := rfl

theorem val_split (t : L8) (r : List Nat) :
    val (2 ^ 32) (t.n0 :: t.n1 :: t.n2 :: t.n3 :: t.n4 :: t.n5 :: t.n6 :: t.n7 :: r) = t.val + 2 ^ 256 * val (2 ^ 32) r := by
  simp only [L8.val, val]; omega

/-- stated with the exponent a variable: with numerals Lean would try to evaluate `2 ^ 385` -/
theorem lt_pow_add {X m n k : Nat} (hk : k = m + n) (h : X < 2 ^ k) : X < 2 ^ m * 2 ^ n := by
  rwa [hk, Nat.pow_add] at h

/-- a reduction of the folded value is a reduction of the 512-bit value -/
theorem of_fold512 {r q X tl th : Nat} (hq : r + q * N = X) (hX : X = tl + th * (2 ^ 256 - N)) :
    r + (q + th) * N = tl + 2 ^ 256 * th := by
  have hCN := N_compl
  -- the truncated subtraction becomes an atom `C`; `hCN : N + C = 2^256` is all `ring` needs of it
  generalize 2 ^ 256 - N = C at hX hCN
  subst hX
  linear_combination hq + th * hCN

theorem reads385 : readsOnlyLast Scalar_reduce385 13 = true := by decide +kernel
theorem reads512 : readsOnlyLast Scalar_reduce512 16 = true := by decide +kernel
theorem readsMul2 : readsOnlyLast Scalar_Mul2 16 = true := by decide +kernel

theorem reduce385_spec (s : L8) (t : List Nat) (ht : t.length = 13) (hlt : AllLt (2^32) t)
    (h385 : bytesVal32 t < 2^385) :
    ∃ r : L8, Scalar_reduce385.runW (s.toList ++ t) = r.toList ∧ r.Canon ∧
      r.val = (bytesVal32 t) % N := by
  -- the receiver's words are replaced by zeros, not bounded: the statement asks nothing of `s`
  rw [runW_prefix Scalar_reduce385 s.toList [0, 0, 0, 0, 0, 0, 0, 0] t (ht ▸ reads385)]
  obtain ⟨t0, t1, t2, t3, t4, t5, t6, t7, t8, t9, t10, t11, t12, rfl⟩ := list13 ht
  have hin : Within ([0, 0, 0, 0, 0, 0, 0, 0] ++ [t0, t1, t2, t3, t4, t5, t6, t7, t8, t9, t10, t11, t12])
      Scalar_reduce385_w32_in := (within_zeros 8 _).append (within_full (W := 4294967295) hlt)
  simp only [AllLt, List.mem_cons, List.not_mem_nil, or_false, forall_eq_or_imp, forall_eq] at hlt
  rw [bytesVal32_eq, val_split ⟨t0, t1, t2, t3, t4, t5, t6, t7⟩] at h385 ⊢
  have htl := L8.U32.val_lt (a := ⟨t0, t1, t2, t3, t4, t5, t6, t7⟩)
    ⟨hlt.1, hlt.2.1, hlt.2.2.1, hlt.2.2.2.1, hlt.2.2.2.2.1, hlt.2.2.2.2.2.1, hlt.2.2.2.2.2.2.1, hlt.2.2.2.2.2.2.2.1⟩
  have hb := hb_of_lt385 htl (lt_pow_add (m := 256) (n := 129) (k := 385) rfl h385)
  run_N Scalar_reduce385 _ with hin, Scalar_reduce385_w32_mid_ok, Scalar_reduce385_w32_out_ok
  obtain ⟨hC, hq⟩ := tail385 hlt.1 hb
    e0 e1 e2 e3 e4 e5 e6 e7 e8 e9 e10 e11 e12 e13 e14 e15 e16 e17 e18 e19 e20 e21 e22 e23 e24 e25 e26 e27 e28
    e29 e30 e31 e32 e33 e34 e35 e36 e37 e38 e39 e40 e41 e42 e43 e44 e45 e46 e47 e48 e49 e50 e51 e52 e53 e54
    e55 e56 e57 e58 e59 e60 e61 e62 e63 e64 e65 e66 e67 e68 e69 e70 e71 e72 e73 e74 e75 e76 e77 e78 e79 e80
    e81 e82 e83 e84 e85 e86 e87 e88 e89 e90 e91 e92 e93 e94 e95 e96 e97 e98 e99
  exact ⟨⟨v85, v87, v89, v91, v93, v95, v97, v99⟩, hrun, hC, eq_mod_of_add_mul hq hC.2⟩

theorem reduce512_spec (s : L8) (t : List Nat) (ht : t.length = 16) (hlt : AllLt (2^32) t) :
    ∃ r : L8, Scalar_reduce512.runW (s.toList ++ t) = r.toList ∧ r.Canon ∧
      r.val = (bytesVal32 t) % N := by
  rw [runW_prefix Scalar_reduce512 s.toList [0, 0, 0, 0, 0, 0, 0, 0] t (ht ▸ reads512)]
  obtain ⟨t0, t1, t2, t3, t4, t5, t6, t7, t8, t9, t10, t11, t12, t13, t14, t15, rfl⟩ := list16 ht
  have hin : Within ([0, 0, 0, 0, 0, 0, 0, 0] ++ [t0, t1, t2, t3, t4, t5, t6, t7, t8, t9, t10, t11, t12, t13, t14, t15])
      Scalar_reduce512_w32_in := (within_zeros 8 _).append (within_full (W := 4294967295) hlt)
  simp only [AllLt, List.mem_cons, List.not_mem_nil, or_false, forall_eq_or_imp, forall_eq] at hlt
  obtain ⟨b0, b1, b2, b3, b4, b5, b6, b7, b8, b9, b10, b11, b12, b13, b14, b15⟩ := hlt
  rw [bytesVal32_eq, val_split ⟨t0, t1, t2, t3, t4, t5, t6, t7⟩, show val (2 ^ 32) [t8, t9, t10, t11, t12, t13, t14, t15] = (⟨t8, t9, t10, t11, t12, t13, t14, t15⟩ : L8).val
      from (L8.val_eq ⟨t8, t9, t10, t11, t12, t13, t14, t15⟩).symm]
  run_N Scalar_reduce512 _ with hin, Scalar_reduce512_w32_mid_ok, Scalar_reduce512_w32_out_ok
  obtain ⟨bx, hb, hX⟩ := fold512 ⟨b0, b1, b2, b3, b4, b5, b6, b7⟩ ⟨b8, b9, b10, b11, b12, b13, b14, b15⟩
    e0 e1 e2 e3 e4 e5 e6 e7 e8 e9 e10 e11 e12 e13 e14 e15 e16 e17 e18 e19 e20 e21 e22 e23 e24 e25 e26 e27 e28
    e29 e30 e31 e32 e33 e34 e35 e36 e37 e38 e39 e40 e41 e42 e43 e44 e45 e46 e47 e48 e49 e50 e51 e52 e53 e54
    e55 e56 e57 e58 e59 e60 e61 e62 e63 e64 e65 e66 e67 e68 e69 e70 e71 e72
  obtain ⟨hC, hq⟩ := tail385 bx hb
    e73 e74 e75 e76 e77 e78 e79 e80 e81 e82 e83 e84 e85 e86 e87 e88 e89 e90 e91 e92 e93 e94 e95 e96 e97 e98
    e99 e100 e101 e102 e103 e104 e105 e106 e107 e108 e109 e110 e111 e112 e113 e114 e115 e116 e117 e118 e119
    e120 e121 e122 e123 e124 e125 e126 e127 e128 e129 e130 e131 e132 e133 e134 e135 e136 e137 e138 e139 e140
    e141 e142 e143 e144 e145 e146 e147 e148 e149 e150 e151 e152 e153 e154 e155 e156 e157 e158 e159 e160 e161
    e162 e163 e164 e165 e166 e167 e168 e169 e170 e171 e172
  exact ⟨⟨v158, v160, v162, v164, v166, v168, v170, v172⟩, hrun, hC, eq_mod_of_add_mul (of_fold512 hq hX) hC.2⟩

theorem mul2_spec (s a b : L8) (ha : a.U32) (hb : b.U32) :
    ∃ r : L8, Scalar_Mul2.runW (s.toList ++ a.toList ++ b.toList) = r.toList ∧ r.Canon ∧
      r.val = (a.val * b.val) % N := by
  rw [List.append_assoc, runW_prefix Scalar_Mul2 s.toList [0, 0, 0, 0, 0, 0, 0, 0] (a.toList ++ b.toList) readsMul2]
  have hin : Within ([0, 0, 0, 0, 0, 0, 0, 0] ++ (a.toList ++ b.toList)) Scalar_Mul2_full_in :=
    (within_zeros 8 _).append ((within_full ha.allLt).append (within_full hb.allLt))
  -- `run_N` spelled out with the kernel's name left folded: unfolding 268 entries in `h` would take
  -- `ir_steps` beyond the default recursion depth
  have h := kernel_steps Scalar_Mul2 _ _ _ _ hin Scalar_Mul2_full_mid_ok Scalar_Mul2_full_out_ok
  simp only [L8.toList, List.reverse_cons, List.reverse_nil, List.nil_append, List.cons_append] at h
  ir_steps h
  obtain ⟨hW, hrun⟩ := h.out
  clear h
  -- the fifteen product columns carried into sixteen words
  have M := carry_step e1 (acc e4 (acc₀ e3 e2)) <|
    carry_step e5 (acc e9 (acc e8 (acc₀ e7 e6))) <|
    carry_step e10 (acc e15 (acc e14 (acc e13 (acc₀ e12 e11)))) <|
    carry_step e16 (acc e22 (acc e21 (acc e20 (acc e19 (acc₀ e18 e17))))) <|
    carry_step e23 (acc e30 (acc e29 (acc e28 (acc e27 (acc e26 (acc₀ e25 e24)))))) <|
    carry_step e31 (acc e39 (acc e38 (acc e37 (acc e36 (acc e35 (acc e34 (acc₀ e33 e32))))))) <|
    carry_step e40 (acc e49 (acc e48 (acc e47 (acc e46 (acc e45 (acc e44 (acc e43 (acc₀ e42 e41)))))))) <|
    carry_step e50 (acc e58 (acc e57 (acc e56 (acc e55 (acc e54 (acc e53 (acc₀ e52 e51))))))) <|
    carry_step e59 (acc e66 (acc e65 (acc e64 (acc e63 (acc e62 (acc₀ e61 e60)))))) <|
    carry_step e67 (acc e73 (acc e72 (acc e71 (acc e70 (acc₀ e69 e68))))) <|
    carry_step e74 (acc e79 (acc e78 (acc e77 (acc₀ e76 e75)))) <|
    carry_step e80 (acc e84 (acc e83 (acc₀ e82 e81))) <|
    carry_step e85 (acc e88 (acc₀ e87 e86)) <|
    carry_step e89 (acc₀ e91 e90) <|
    carry_last e92 e93
  have prod : val (2 ^ 32) [v1, v5, v10, v16, v23, v31, v40, v50, v59, v67, v74, v80, v85, v89, v92] +
      v93 * (2 ^ 32) ^ 15 = a.val * b.val := by
    refine ((val_snoc [v1, v5, v10, v16, v23, v31, v40, v50, v59, v67, v74, v80, v85, v89, v92]
      v93).symm.trans M).trans ?_
    rw [e0]; simp only [L8.val, val]; ring
  -- the product is below 2^512, so the top carry v93 is a word
  have hlt : a.val * b.val < (2 ^ 32) ^ 15 * 2 ^ 32 :=
    Nat.lt_of_lt_of_eq (Nat.mul_lt_mul'' ha.val_lt hb.val_lt) (by decide)
  rw [Nat.mod_eq_of_lt (top_lt prod hlt)] at e94
  subst e94
  have hX : a.val * b.val = (⟨v1, v5, v10, v16, v23, v31, v40, v50⟩ : L8).val +
      2 ^ 256 * (⟨v59, v67, v74, v80, v85, v89, v92, v94⟩ : L8).val := by
    rw [← prod]; simp only [L8.val, val]; ring
  obtain ⟨bx, hb', hF⟩ := fold512
    ⟨digit_lt e1, digit_lt e5, digit_lt e10, digit_lt e16, digit_lt e23, digit_lt e31, digit_lt e40, digit_lt e50⟩
    ⟨digit_lt e59, digit_lt e67, digit_lt e74, digit_lt e80, digit_lt e85, digit_lt e89, digit_lt e92, top_lt prod hlt⟩
    e95 e96 e97 e98 e99 e100 e101 e102 e103 e104 e105 e106 e107 e108 e109 e110 e111 e112 e113 e114 e115 e116
    e117 e118 e119 e120 e121 e122 e123 e124 e125 e126 e127 e128 e129 e130 e131 e132 e133 e134 e135 e136 e137
    e138 e139 e140 e141 e142 e143 e144 e145 e146 e147 e148 e149 e150 e151 e152 e153 e154 e155 e156 e157 e158
    e159 e160 e161 e162 e163 e164 e165 e166 e167
  obtain ⟨hC, hq⟩ := tail385 bx hb'
    e168 e169 e170 e171 e172 e173 e174 e175 e176 e177 e178 e179 e180 e181 e182 e183 e184 e185 e186 e187 e188
    e189 e190 e191 e192 e193 e194 e195 e196 e197 e198 e199 e200 e201 e202 e203 e204 e205 e206 e207 e208 e209
    e210 e211 e212 e213 e214 e215 e216 e217 e218 e219 e220 e221 e222 e223 e224 e225 e226 e227 e228 e229 e230
    e231 e232 e233 e234 e235 e236 e237 e238 e239 e240 e241 e242 e243 e244 e245 e246 e247 e248 e249 e250 e251
    e252 e253 e254 e255 e256 e257 e258 e259 e260 e261 e262 e263 e264 e265 e266 e267
  exact ⟨⟨v253, v255, v257, v259, v261, v263, v265, v267⟩, hrun, hC,
    eq_mod_of_add_mul ((of_fold512 hq hF).trans hX.symm) hC.2⟩

end Secp.Proofs.ScalarMul
