import Secp.Model.ScalarMult
import Secp.Proofs.SpecGroup
/-
  Proofs/ScalarMultEndo — `splitK` decomposes k as k1 + k2·λ (mod N), and the map
  (x, y) ↦ (β·x, y) is multiplication by λ on the multiples of G.
-/

namespace Secp.Proofs.ScalarMultEndo
open Secp.Spec Secp.Model Secp.Proofs.SpecGroup

theorem lam_cast : (((N - endoNegLambda) % N : Nat) : ZMod N) = -(endoNegLambda : ZMod N) := by
  rw [ZMod.natCast_mod, Nat.cast_sub (by decide +kernel : endoNegLambda ≤ N), ZMod.natCast_self, zero_sub]

theorem splitK_spec' (k : Nat) :
    (splitK k).1 < N ∧ (splitK k).2 < N ∧
      ((splitK k).1 + (splitK k).2 * ((N - endoNegLambda) % N)) % N = k % N := by
  refine ⟨nadd_lt _ _, nadd_lt _ _, ?_⟩
  rw [mod_N_eq_iff]
  have h1 : (splitK k).1 = nadd (nmul (splitK k).2 endoNegLambda) k := rfl
  rw [h1, Nat.cast_add, Nat.cast_mul, lam_cast, nadd_cast, nmul_cast]
  ring

theorem splitK_spec (k : Nat) : let (k1, k2) := splitK k
    k1 < N ∧ k2 < N ∧ (k1 + k2 * ((N - endoNegLambda) % N)) % N = k % N :=
  splitK_spec' k

def endoPt : Pt → Pt
  | none => none
  | some (x, y) => some (fmul x endoBeta, y)

theorem endoPt_some (x y : Nat) : endoPt (some (x, y)) = some (fmul x endoBeta, y) := rfl
theorem endoPt_none : endoPt none = none := rfl

theorem beta_cube : (endoBeta : ZMod P) ^ 3 = 1 := by
  have h : fmul (fmul endoBeta endoBeta) endoBeta = 1 := by decide +kernel
  have h := congrArg (fun n : Nat => (n : ZMod P)) h
  simp only [fmul_cast, Nat.cast_one] at h
  rw [← h]; ring

theorem beta_ne_zero : (endoBeta : ZMod P) ≠ 0 := by
  intro h
  have := beta_cube
  rw [h, zero_pow (by norm_num)] at this
  exact zero_ne_one this

theorem beta_inv : (endoBeta : ZMod P)⁻¹ = (endoBeta : ZMod P) ^ 2 := by
  apply inv_eq_of_mul_eq_one_right
  rw [← beta_cube]; ring

theorem valid_endo {p : Pt} (hp : Valid p) : Valid (endoPt p) := by
  rcases p with _ | ⟨x, y⟩
  · trivial
  · refine ⟨fmul_lt _ _, hp.2.1, ?_⟩
    rw [curve_cast, fmul_cast]
    have h := (curve_cast x y).1 hp.2.2
    rw [h]
    linear_combination (-(x : ZMod P) ^ 3) * beta_cube

/-- scaling the abscissas by β scales the slope of the tangent and of the chord by β², hence the
    abscissa of the result by β, and leaves its ordinate alone -/
theorem tg_beta (x y : ZMod P) :
    tgX (x * endoBeta) y = tgX x y * endoBeta ∧ tgY (x * endoBeta) y = tgY x y := by
  have hl : (3 * ((x : ZMod P) * endoBeta) ^ 2) * (2 * y)⁻¹
      = (endoBeta : ZMod P) ^ 2 * (3 * x ^ 2 * (2 * y)⁻¹) := by ring
  simp only [tgY, tgX, hl]
  generalize 3 * x ^ 2 * (2 * y)⁻¹ = l
  constructor
  · linear_combination (l ^ 2 * (endoBeta : ZMod P)) * beta_cube
  · linear_combination
      (l * (3 * x - l ^ 2 * ((endoBeta : ZMod P) ^ 3 + 1))) * beta_cube

theorem ch_beta (x1 y1 x2 y2 : ZMod P) :
    chX (x1 * endoBeta) y1 (x2 * endoBeta) y2 = chX x1 y1 x2 y2 * endoBeta ∧
      chY (x1 * endoBeta) y1 (x2 * endoBeta) y2 = chY x1 y1 x2 y2 := by
  have hl : (y2 - y1) * (x2 * endoBeta - x1 * endoBeta)⁻¹
      = (endoBeta : ZMod P) ^ 2 * ((y2 - y1) * (x2 - x1)⁻¹) := by
    rw [show x2 * endoBeta - x1 * (endoBeta : ZMod P) = endoBeta * (x2 - x1) by ring,
      mul_inv, beta_inv]
    ring
  simp only [chY, chX, hl]
  generalize (y2 - y1) * (x2 - x1)⁻¹ = l
  constructor
  · linear_combination (l ^ 2 * (endoBeta : ZMod P)) * beta_cube
  · linear_combination
      (l * (2 * x1 + x2 - l ^ 2 * ((endoBeta : ZMod P) ^ 3 + 1))) * beta_cube

theorem endo_dbl {p : Pt} (hp : Valid p) : endoPt (Pt.dbl p) = Pt.dbl (endoPt p) := by
  rcases p with _ | ⟨x, y⟩
  · rfl
  · obtain ⟨x3, y3, e, -, h3y, eX, eY⟩ := dbl_some_ex (x := x) hp.y_mod_ne
    rw [e, endoPt_some, endoPt_some, eq_comm, dbl_some_iff hp.y_mod_ne]
    exact ⟨fmul_lt _ _, h3y, by rw [fmul_cast, fmul_cast, eX, (tg_beta _ _).1],
      by rw [fmul_cast, eY, (tg_beta _ _).2]⟩

theorem fmul_beta_inj {x1 x2 : Nat} (h1 : x1 < P) (h2 : x2 < P)
    (h : fmul x1 endoBeta % P = fmul x2 endoBeta % P) : x1 = x2 := by
  apply eq_of_cast_eq_P h1 h2
  rw [mod_P_eq_iff, fmul_cast, fmul_cast] at h
  exact mul_right_cancel₀ beta_ne_zero h

theorem endo_add {p q : Pt} (hp : Valid p) (hq : Valid q) :
    endoPt (Pt.add p q) = Pt.add (endoPt p) (endoPt q) := by
  rcases p with _ | ⟨x1, y1⟩
  · simp [Pt.add, endoPt_none]
  rcases q with _ | ⟨x2, y2⟩
  · simp [Pt.add, endoPt_none, endoPt_some]
  by_cases hx : x1 % P = x2 % P
  · obtain rfl : x1 = x2 := by rwa [Nat.mod_eq_of_lt hp.1, Nat.mod_eq_of_lt hq.1] at hx
    by_cases hy : y1 % P = y2 % P
    · obtain rfl : y1 = y2 := by rwa [Nat.mod_eq_of_lt hp.2.1, Nat.mod_eq_of_lt hq.2.1] at hy
      rw [endoPt_some, add_self, add_self]
      exact endo_dbl hp
    · rw [endoPt_some, endoPt_some, add_some_opp _ _ _ hy, add_some_opp _ _ _ hy]
      rfl
  · have hx' : fmul x1 endoBeta % P ≠ fmul x2 endoBeta % P :=
      fun h => hx (by rw [fmul_beta_inj hp.1 hq.1 h])
    obtain ⟨x3, y3, e, -, h3y, eX, eY⟩ := add_some_ex (y1 := y1) (y2 := y2) hx
    rw [e, endoPt_some, endoPt_some, endoPt_some, eq_comm, add_some_iff hx']
    exact ⟨fmul_lt _ _, h3y, by rw [fmul_cast, fmul_cast, fmul_cast, eX, (ch_beta _ _ _ _).1],
      by rw [fmul_cast, fmul_cast, eY, (ch_beta _ _ _ _).2]⟩

theorem endo_smulAux {p : Pt} (hp : Valid p) :
    ∀ f k, endoPt (smulAux p f k) = smulAux (endoPt p) f k := by
  intro f
  induction f with
  | zero => intro k; rfl
  | succ f ih =>
    intro k
    unfold smulAux
    split_ifs
    · rfl
    · rw [endo_add (valid_dbl (valid_smulAux hp _ _)) hp, endo_dbl (valid_smulAux hp _ _), ih]
    · rw [endo_dbl (valid_smulAux hp _ _), ih]

theorem endo_smul (k : Nat) {p : Pt} (hp : Valid p) : endoPt (smul k p) = smul k (endoPt p) :=
  endo_smulAux hp _ k

theorem endo_G : smul ((N - endoNegLambda) % N) G = endoPt G := by rw [smul_eq_fast]; decide +kernel

theorem endo_spec (m : Nat) (x y : Nat) (h : smul m G = some (x, y)) :
    smul ((N - endoNegLambda) % N) (some (x, y)) = some (fmul x endoBeta, y) := by
  rw [← endoPt_some, ← h, endo_smul m valid_G, ← endo_G]
  rw [smul_smul' valid_G, smul_smul' valid_G, Nat.mul_comm]

end Secp.Proofs.ScalarMultEndo
