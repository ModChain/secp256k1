import Secp.Proofs.SpecGroup
import Secp.Proofs.JacTriple
/-
  Proofs/ScalarMultJac — Jacobian triples and the affine points they represent (`Rep`: X = x·Z²,
  Y = y·Z³ in `ZMod P`), the identity encodings, triples with Z = 1, and scalar-multiple algebra of
  the executable specification; shared by the point-routine and the scalar-multiplication proofs.
-/

-- the representation relation and its lemmas, under the namespace PointOpsContract, PointOpsAdd and Adaptor cite them by
namespace Secp.Proofs.PointOps
open Secp.Spec Secp.Model Secp.Proofs.SpecGroup

abbrev F := ZMod Secp.Spec.P

/-- a test `u1 == u2` of normalised values decides `A = B` when `u1`, `u2` denote `A`, `B` up to a
    common nonzero factor -/
theorem beq_iff_of_cast {u1 u2 : Nat} {A B c : F} (h1 : u1 < P) (h2 : u2 < P) (hc : c ≠ 0)
    (e1 : (u1 : F) * c = A) (e2 : (u2 : F) * c = B) : (u1 == u2) = true ↔ A = B := by
  rw [beq_iff_eq, ← e1, ← e2, mul_left_inj' hc, cast_eq_iff_of_lt h1 h2]

theorem cast_eq_one_of_eq {a : Nat} (h : a = 1) : (a : F) = 1 := by rw [h, Nat.cast_one]

structure Rep (q : Jac) (x y : Nat) : Prop where
  hz : (q.2.2 : F) ≠ 0
  hx : (q.1 : F) = (x : F) * (q.2.2 : F) ^ 2
  hy : (q.2.1 : F) = (y : F) * (q.2.2 : F) ^ 3

theorem WF_curve_cast (X Y Z : Nat) :
    fsq Y = fadd (fmul (fsq X) X) (fmul 7 (fmul (fsq (fmul (fsq Z) Z)) 1)) ↔
      (Y : F) ^ 2 = (X : F) ^ 3 + 7 * (Z : F) ^ 6 := by
  rw [← cast_eq_iff_of_lt (fsq_lt _) (fadd_lt _ _)]
  simp only [fsq_cast_pow, fadd_cast, fmul_cast, Nat.cast_ofNat, Nat.cast_one]
  constructor <;> intro h <;> linear_combination h

theorem affX_cast (X Z : Nat) : ((fmul X (fsq (finv Z)) : Nat) : F) = (X : F) / (Z : F) ^ 2 := by
  simp only [fmul_cast, fsq_cast_pow, finv_cast]
  ring

theorem affY_cast (Y Z : Nat) :
    ((fmul Y (fmul (fsq (finv Z)) (finv Z)) : Nat) : F) = (Y : F) / (Z : F) ^ 3 := by
  simp only [fmul_cast, fsq_cast_pow, finv_cast]
  ring

theorem Rep.Y_ne_zero {q : Jac} {x y : Nat} (hr : Rep q x y) (hv : Valid (some (x, y))) :
    (q.2.1 : F) ≠ 0 := by
  rw [hr.hy]
  exact mul_ne_zero (y_ne_zero ((curve_cast x y).1 hv.2.2)) (pow_ne_zero 3 hr.hz)

/-- `Rep` against the coordinates `Jac.toPt` computes -/
theorem rep_iff_aff {X Y Z x y : Nat} (hz : (Z : F) ≠ 0) (hx : x < P) (hy : y < P) :
    Rep (X, Y, Z) x y ↔
      fmul X (fsq (finv Z)) = x ∧ fmul Y (fmul (fsq (finv Z)) (finv Z)) = y := by
  rw [← cast_eq_iff_of_lt (fmul_lt _ _) hx, ← cast_eq_iff_of_lt (fmul_lt _ _) hy, affX_cast, affY_cast,
    div_eq_iff (pow_ne_zero 2 hz), div_eq_iff (pow_ne_zero 3 hz)]
  exact ⟨fun h => ⟨h.hx, h.hy⟩, fun h => ⟨hz, h.1, h.2⟩⟩

theorem rep_of_WF {q : Jac} (hwf : Jac.WF q) (hfin : isInfJ q = false) :
    ∃ x y, Jac.toPt q = some (x, y) ∧ Valid (some (x, y)) ∧ Rep q x y := by
  refine ⟨_, _, toPt_of_not_inf q hwf hfin, ?_⟩
  obtain ⟨X, Y, Z⟩ := q
  obtain ⟨-, -, hZ, hc⟩ := hwf
  rcases hc with hinf | hc
  · rw [hfin] at hinf; exact absurd hinf (by simp)
  have hzF : (Z : F) ≠ 0 := fun h => (fin_iff.1 hfin).2 ((cast_eq_zero_iff_of_lt hZ).1 h)
  have hc' := (WF_curve_cast X Y Z).1 hc
  refine ⟨⟨fmul_lt _ _, fmul_lt _ _, ?_⟩, (rep_iff_aff hzF (fmul_lt _ _) (fmul_lt _ _)).2 ⟨rfl, rfl⟩⟩
  rw [curve_cast, affX_cast, affY_cast]
  field_simp
  linear_combination hc'

theorem wf_toPt_of_rep {q : Jac} {x y : Nat} (hb : Bnd q) (hv : Valid (some (x, y))) (hr : Rep q x y) :
    Jac.WF q ∧ Jac.toPt q = some (x, y) := by
  have hY := hr.Y_ne_zero hv
  obtain ⟨X, Y, Z⟩ := q
  have hwf : Jac.WF (X, Y, Z) := by
    refine ⟨hb.1, hb.2.1, hb.2.2, Or.inr ((WF_curve_cast X Y Z).2 ?_)⟩
    rw [hr.hx, hr.hy]
    linear_combination (Z : F) ^ 6 * (curve_cast x y).1 hv.2.2
  have hfin : isInfJ (X, Y, Z) = false :=
    fin_iff.2 ⟨fun h => hY (by rw [h.2, Nat.cast_zero]), fun h => hr.hz (by rw [h, Nat.cast_zero])⟩
  obtain ⟨e1, e2⟩ := (rep_iff_aff hr.hz hv.1 hv.2.1).1 hr
  exact ⟨hwf, by rw [toPt_of_not_inf _ hwf hfin, e1, e2]⟩

end Secp.Proofs.PointOps

namespace Secp.Proofs.ScalarMultJac
open Secp.Spec Secp.Model Secp.Proofs.SpecGroup Secp.Proofs.PointOps

/-- the two facts about the point routines that the scalar-multiplication loops rely on
    (the `add` and `dbl` fields of `Secp.Model.PointOps`) -/
def PointOps' : Prop :=
  (∀ q p, Jac.WF q → Jac.WF p →
    Jac.WF (addNC q p) ∧ Jac.toPt (addNC q p) = Pt.add (Jac.toPt q) (Jac.toPt p)) ∧
  (∀ q, Jac.WF q → Jac.WF (dblNC q) ∧ Jac.toPt (dblNC q) = Pt.dbl (Jac.toPt q))

theorem WF_inf : Jac.WF Jac.inf := WF_of_inf ⟨P_pos, P_pos, P_pos⟩ rfl

theorem toPt_inf : Jac.toPt Jac.inf = none := toPt_of_inf rfl

theorem affine_spec {x y : Nat} (h : Valid (some (x, y))) :
    Jac.WF (x, y, 1) ∧ Jac.toPt (x, y, 1) = some (x, y) :=
  wf_toPt_of_rep ⟨h.1, h.2.1, one_lt_P⟩ h
    ⟨by simp, by simp, by simp⟩

theorem smul_zero' (p : Pt) : smul 0 p = none := by
  unfold smul smulAux
  simp

theorem add_smul_smul {p : Pt} (hp : Valid p) (a b : Nat) :
    Pt.add (smul a p) (smul b p) = smul (a + b) p := by
  apply toE_injective_on_valid (valid_add (valid_smul _ hp) (valid_smul _ hp)) (valid_smul _ hp)
  rw [toE_add (valid_smul _ hp) (valid_smul _ hp), toE_smul _ hp, toE_smul _ hp, toE_smul _ hp,
    add_nsmul]

end Secp.Proofs.ScalarMultJac
