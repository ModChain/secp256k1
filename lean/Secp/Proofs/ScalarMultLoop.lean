import Secp.Proofs.ScalarMultTable
import Secp.Proofs.Bytes
import Mathlib.Tactic.Module
/-
  Proofs/ScalarMultLoop — the loops of `scalarBaseMultNC` and `scalarMultNC` over opaque point
  operations satisfying `PointOps'`: the accumulator relation `Acc` with its loop lemma `acc_range`;
  the table loop; what the eight masks of one `smByte` add up to (`bitN` … `sbyte_eq`, `acc_smByte`);
  the byte loop on right-aligned digit strings (`pad`), and `smLoop`, the body of `Model.scalarMultNC`
  on given digit strings, through which ScalarMultSpec and DriversSmul reach `smLoop_spec`.
-/

namespace Secp.Proofs.ScalarMultLoop
open Secp.Spec Secp.Model Secp.Proofs.SpecGroup Secp.Proofs.ScalarMultJac
open Secp.Proofs.ScalarMultTable
open Secp.Proofs.Bytes (beNat_nil beNat_take_succ beNat_be32_of_lt be32_length take_be32)

structure Acc (q : Jac) (X : E.Point) : Prop where
  wf : Jac.WF q
  valid : Valid (Jac.toPt q)
  eq : toE (Jac.toPt q) = X

theorem acc_congr {q : Jac} {X Y : E.Point} (h : Acc q X) (e : X = Y) : Acc q Y := e ▸ h

theorem acc_inf : Acc Jac.inf 0 := ⟨WF_inf, by rw [toPt_inf]; trivial, by rw [toPt_inf, toE_none]⟩

theorem acc_smul {q : Jac} {p : Pt} {k : Nat} (h : Acc q (k • toE p)) (hp : Valid p) :
    Jac.WF q ∧ Jac.toPt q = smul k p :=
  ⟨h.wf, toE_injective_on_valid h.valid (valid_smul k hp) (by rw [h.eq, toE_smul k hp])⟩

theorem acc_add (ho : PointOps') {q p : Jac} {X Q : E.Point} (hq : Acc q X)
    (wf : Jac.WF p) (valid : Valid (Jac.toPt p)) (eq : toE (Jac.toPt p) = Q) :
    Acc (addNC q p) (X + Q) := by
  obtain ⟨w, e⟩ := ho.1 q p hq.wf wf
  refine ⟨w, ?_, ?_⟩
  · rw [e]; exact valid_add hq.valid valid
  · rw [e, toE_add hq.valid valid, hq.eq, eq]

theorem acc_dbl (ho : PointOps') {q : Jac} {X : E.Point} (hq : Acc q X) :
    Acc (dblNC q) ((2 : ℤ) • X) := by
  obtain ⟨w, e⟩ := ho.2 q hq.wf
  refine ⟨w, ?_, ?_⟩
  · rw [e]; exact valid_dbl hq.valid
  · rw [e, toE_dbl hq.valid, hq.eq, two_zsmul]

theorem acc_range {f : Jac → Nat → Jac} {X : Nat → E.Point} {m : Nat} (h0 : 0 = X 0)
    (hs : ∀ n q, n < m → Acc q (X n) → Acc (f q n) (X (n + 1))) :
    ∀ n, n ≤ m → Acc ((List.range n).foldl f Jac.inf) (X n) := by
  intro n
  induction n with
  | zero => exact fun _ => acc_congr acc_inf h0
  | succ n ih =>
    intro hn
    rw [List.range_succ, List.foldl_append, List.foldl_cons, List.foldl_nil]
    exact hs n _ hn (ih (Nat.le_of_succ_le hn))

theorem baseLoop_spec (ho : PointOps') (kb : Bytes) (hlen : kb.length = 32) :
    ∀ n, n ≤ 32 →
      Acc ((List.range n).foldl (fun r i => addNC r (tablePoint i (kb.getD i 0).toNat)) Jac.inf)
        ((beNat (kb.take n) * 256 ^ (32 - n)) • toE G) := by
  refine acc_range (by rw [List.take_zero, beNat_nil, Nat.zero_mul, zero_nsmul]) fun n q hn hq => ?_
  obtain ⟨tw, te⟩ := table_spec n (kb.getD n 0).toNat (by omega) (kb.getD n 0).toNat_lt
  refine acc_congr (acc_add ho hq tw (te ▸ valid_smul _ valid_G) (by rw [te, toE_smul _ valid_G])) ?_
  rw [← add_nsmul, beNat_take_succ kb n (by omega)]
  congr 1
  rw [show 32 - n = (31 - n) + 1 by omega, show 32 - (n + 1) = 31 - n by omega, pow_succ]
  ring

/-- for every scalar that fits the 32-byte buffer, in particular for every `k < N` -/
theorem scalarBaseMult_spec (ho : PointOps') (k : Nat) (hk : k < 2 ^ 256) :
    Jac.WF (scalarBaseMultNC k) ∧ Jac.toPt (scalarBaseMultNC k) = smul k G := by
  have h := baseLoop_spec ho (be32 k) (be32_length k) 32 (le_refl _)
  rw [take_be32 k 32 (le_refl _), beNat_be32_of_lt hk, Nat.sub_self, pow_zero, Nat.mul_one] at h
  exact acc_smul h valid_G

def bitN (a m : UInt8) : Nat := if a &&& m == m then 1 else 0

/-- signed digit selected by `smBit` -/
def sdig (a b m : UInt8) : ℤ := if a &&& m == m then 1 else if b &&& m == m then -1 else 0

def byteN (a : UInt8) : Nat :=
  (((((((bitN a 0x80) * 2 + bitN a 0x40) * 2 + bitN a 0x20) * 2 + bitN a 0x10) * 2 + bitN a 0x08) * 2
    + bitN a 0x04) * 2 + bitN a 0x02) * 2 + bitN a 0x01

/-- what one `smByte` adds for the digit pair `a`, `b` (`acc_smByte`) -/
def sbyte (a b : UInt8) : ℤ :=
  (((((((sdig a b 0x80) * 2 + sdig a b 0x40) * 2 + sdig a b 0x20) * 2 + sdig a b 0x10) * 2
    + sdig a b 0x08) * 2 + sdig a b 0x04) * 2 + sdig a b 0x02) * 2 + sdig a b 0x01

theorem byteN_eq (a : UInt8) : byteN a = a.toNat := by
  have fin : ∀ n, n < 256 → byteN (UInt8.ofNat n) = n := by decide +kernel
  have := fin a.toNat a.toNat_lt
  rwa [UInt8.ofNat_toNat] at this

theorem no_overlap_mask {a b m : UInt8} (hab : a &&& b = 0) (hm : m ≠ 0)
    (h1 : a &&& m = m) (h2 : b &&& m = m) : False := by
  apply hm
  have : (a &&& m) &&& (b &&& m) = (a &&& b) &&& m := by
    rw [UInt8.and_assoc, UInt8.and_assoc, ← UInt8.and_assoc m b m, UInt8.and_comm m b,
      UInt8.and_assoc b m m, UInt8.and_self]
  rw [h1, h2, hab, UInt8.and_self, UInt8.zero_and] at this
  exact this

theorem sdig_eq {a b m : UInt8} (hab : a &&& b = 0) (hm : m ≠ 0) :
    sdig a b m = (bitN a m : ℤ) - bitN b m := by
  unfold sdig bitN
  by_cases h1 : a &&& m = m <;> by_cases h2 : b &&& m = m
  · exact (no_overlap_mask hab hm h1 h2).elim
  · simp [h1, h2]
  · simp [h1, h2]
  · simp [h1, h2]

theorem sbyte_eq {a b : UInt8} (hab : a &&& b = 0) : sbyte a b = (a.toNat : ℤ) - b.toNat := by
  rw [← byteN_eq a, ← byteN_eq b]
  unfold sbyte byteN
  rw [sdig_eq hab (by decide), sdig_eq hab (by decide), sdig_eq hab (by decide),
    sdig_eq hab (by decide), sdig_eq hab (by decide), sdig_eq hab (by decide),
    sdig_eq hab (by decide), sdig_eq hab (by decide)]
  push_cast
  ring

structure PtPair (p pn : Jac) (Q : E.Point) : Prop where
  wf : Jac.WF p
  wfn : Jac.WF pn
  valid : Valid (Jac.toPt p)
  validn : Valid (Jac.toPt pn)
  eq : toE (Jac.toPt p) = Q
  eqn : toE (Jac.toPt pn) = -Q

/-- one of the two conditional additions of `smBit`: `p` on a bit of `a`, else `pn` on a bit of `b` -/
def addSel (q p pn : Jac) (a b m : UInt8) : Jac :=
  if a &&& m == m then addNC q p else if b &&& m == m then addNC q pn else q

theorem acc_addSel (ho : PointOps') {q p pn : Jac} {X Q : E.Point} (hq : Acc q X)
    (hp : PtPair p pn Q) (a b m : UInt8) :
    Acc (addSel q p pn a b m) (X + sdig a b m • Q) := by
  unfold addSel sdig
  by_cases h1 : (a &&& m == m) = true
  · simp only [h1, ↓reduceIte, one_zsmul]
    exact acc_add ho hq hp.wf hp.valid hp.eq
  · by_cases h2 : (b &&& m == m) = true
    · simp only [h1, h2, Bool.false_eq_true, ↓reduceIte, neg_zsmul, one_zsmul]
      exact acc_add ho hq hp.wfn hp.validn hp.eqn
    · simp only [h1, h2, Bool.false_eq_true, ↓reduceIte, zero_zsmul, add_zero]
      exact hq

theorem acc_smBit (ho : PointOps') {q p1 p1n p2 p2n : Jac} {X Q1 Q2 : E.Point} (hq : Acc q X)
    (h1 : PtPair p1 p1n Q1) (h2 : PtPair p2 p2n Q2) (a b c d m : UInt8) :
    Acc (smBit q p1 p1n p2 p2n a b c d m) ((2 : ℤ) • X + sdig a b m • Q1 + sdig c d m • Q2) := by
  -- `smBit` unfolds to `addSel (addSel (dblNC q) p1 p1n a b m) p2 p2n c d m`
  exact acc_addSel ho (acc_addSel ho (acc_dbl ho hq) h1 a b m) h2 c d m

theorem acc_smByte (ho : PointOps') {q p1 p1n p2 p2n : Jac} {X Q1 Q2 : E.Point} (hq : Acc q X)
    (h1 : PtPair p1 p1n Q1) (h2 : PtPair p2 p2n Q2) (a b c d : UInt8) :
    Acc (smByte q p1 p1n p2 p2n a b c d) ((256 : ℤ) • X + sbyte a b • Q1 + sbyte c d • Q2) := by
  unfold smByte
  simp only [List.foldl_cons, List.foldl_nil]
  have s1 := acc_smBit ho hq h1 h2 a b c d 0x80
  have s2 := acc_smBit ho s1 h1 h2 a b c d 0x40
  have s3 := acc_smBit ho s2 h1 h2 a b c d 0x20
  have s4 := acc_smBit ho s3 h1 h2 a b c d 0x10
  have s5 := acc_smBit ho s4 h1 h2 a b c d 0x08
  have s6 := acc_smBit ho s5 h1 h2 a b c d 0x04
  have s7 := acc_smBit ho s6 h1 h2 a b c d 0x02
  have s8 := acc_smBit ho s7 h1 h2 a b c d 0x01
  refine acc_congr s8 ?_
  unfold sbyte
  module

theorem acc_loop (ho : PointOps') {p1 p1n p2 p2n : Jac} {Q1 Q2 : E.Point}
    (h1 : PtPair p1 p1n Q1) (h2 : PtPair p2 p2n Q2) (pa pb pc pd : Bytes) (m : Nat)
    (la : pa.length = m) (lb : pb.length = m) (lc : pc.length = m) (ld : pd.length = m)
    (hab : ∀ i, pa.getD i 0 &&& pb.getD i 0 = 0) (hcd : ∀ i, pc.getD i 0 &&& pd.getD i 0 = 0) :
    ∀ n, n ≤ m →
      Acc ((List.range n).foldl (fun q i =>
          smByte q p1 p1n p2 p2n (pa.getD i 0) (pb.getD i 0) (pc.getD i 0) (pd.getD i 0)) Jac.inf)
        (((beNat (pa.take n) : ℤ) - beNat (pb.take n)) • Q1
          + ((beNat (pc.take n) : ℤ) - beNat (pd.take n)) • Q2) := by
  refine acc_range (by simp [beNat_nil]) fun n q hn hq => ?_
  refine acc_congr (acc_smByte ho hq h1 h2 _ _ _ _) ?_
  rw [sbyte_eq (hab n), sbyte_eq (hcd n), beNat_take_succ pa n (by omega),
    beNat_take_succ pb n (by omega), beNat_take_succ pc n (by omega),
    beNat_take_succ pd n (by omega)]
  push_cast
  module

/-- `l` behind `z` zero bytes: the shorter digit string aligned with the longer one, which
    `scalarMultNC` does by index arithmetic (`smLoop_eq`) -/
def pad (z : Nat) (l : Bytes) : Bytes := List.replicate z (0 : UInt8) ++ l

theorem length_pad (z : Nat) (l : Bytes) : (pad z l).length = z + l.length := by
  simp [pad]

theorem getD_pad (z : Nat) (l : Bytes) (i : Nat) :
    (pad z l).getD i 0 = if i ≥ z then l.getD (i - z) 0 else 0 := by
  unfold pad
  simp only [List.getD_eq_getElem?_getD]
  by_cases h : i ≥ z
  · rw [if_pos h, List.getElem?_append_right (by simpa using h)]
    simp
  · have h' : i < z := by omega
    rw [if_neg h, List.getElem?_append_left (by simpa using h'), List.getElem?_replicate, if_pos h']
    rfl

theorem beNat_pad (z : Nat) (l : Bytes) : beNat (pad z l) = beNat l :=
  Secp.Proofs.Bytes.beNat_zeros_append z l

theorem pad_and {a b : Bytes} (h : ∀ i, a.getD i 0 &&& b.getD i 0 = 0) (z i : Nat) :
    (pad z a).getD i 0 &&& (pad z b).getD i 0 = 0 := by
  rw [getD_pad, getD_pad]
  split
  · exact h _
  · rfl

/-- the body of `Model.scalarMultNC` from `let k1Len` on, copied, on given points and digit strings;
    `ScalarMultSpec.scalarMultNC_eq` and `DriversSmul.genLoop_eq` are what fails when the model's text moves -/
def smLoop (p1 p1n p2 p2n : Jac) (k1p k1n k2p k2n : Bytes) : Jac :=
  let k1Len := k1p.length; let k2Len := k2p.length
  let m := max k1Len k2Len
  (List.range m).foldl (fun q i =>
    let (a, b) := if i ≥ m - k1Len then (k1p.getD (i - (m - k1Len)) 0, k1n.getD (i - (m - k1Len)) 0) else (0, 0)
    let (c, d) := if i ≥ m - k2Len then (k2p.getD (i - (m - k2Len)) 0, k2n.getD (i - (m - k2Len)) 0) else (0, 0)
    smByte q p1 p1n p2 p2n a b c d) Jac.inf

theorem smLoop_eq (p1 p1n p2 p2n : Jac) (k1p k1n k2p k2n : Bytes) :
    smLoop p1 p1n p2 p2n k1p k1n k2p k2n =
      (List.range (max k1p.length k2p.length)).foldl (fun q i =>
        smByte q p1 p1n p2 p2n
          ((pad (max k1p.length k2p.length - k1p.length) k1p).getD i 0)
          ((pad (max k1p.length k2p.length - k1p.length) k1n).getD i 0)
          ((pad (max k1p.length k2p.length - k2p.length) k2p).getD i 0)
          ((pad (max k1p.length k2p.length - k2p.length) k2n).getD i 0)) Jac.inf := by
  unfold smLoop
  simp only [getD_pad]
  congr 1
  funext q i
  by_cases h1 : i ≥ max k1p.length k2p.length - k1p.length <;>
    by_cases h2 : i ≥ max k1p.length k2p.length - k2p.length <;>
    simp only [h1, h2, if_true, if_false]

theorem smLoop_spec (ho : PointOps') {p1 p1n p2 p2n : Jac} {Q1 Q2 : E.Point}
    (h1 : PtPair p1 p1n Q1) (h2 : PtPair p2 p2n Q2) (k1p k1n k2p k2n : Bytes) (K1 K2 : Nat)
    (l1 : k1p.length = k1n.length) (l2 : k2p.length = k2n.length)
    (v1 : beNat k1p = K1 + beNat k1n) (v2 : beNat k2p = K2 + beNat k2n)
    (o1 : ∀ i, k1p.getD i 0 &&& k1n.getD i 0 = 0) (o2 : ∀ i, k2p.getD i 0 &&& k2n.getD i 0 = 0) :
    Acc (smLoop p1 p1n p2 p2n k1p k1n k2p k2n) ((K1 : ℤ) • Q1 + (K2 : ℤ) • Q2) := by
  rw [smLoop_eq]
  have ea : (pad (max k1p.length k2p.length - k1p.length) k1p).length = max k1p.length k2p.length := by
    rw [length_pad]; omega
  have eb : (pad (max k1p.length k2p.length - k1p.length) k1n).length = max k1p.length k2p.length := by
    rw [length_pad, ← l1]; omega
  have ec : (pad (max k1p.length k2p.length - k2p.length) k2p).length = max k1p.length k2p.length := by
    rw [length_pad]; omega
  have ed : (pad (max k1p.length k2p.length - k2p.length) k2n).length = max k1p.length k2p.length := by
    rw [length_pad, ← l2]; omega
  refine acc_congr (acc_loop ho h1 h2 _ _ _ _ _ ea eb ec ed (pad_and o1 _) (pad_and o2 _) _ (le_refl _)) ?_
  rw [List.take_of_length_le ea.le, List.take_of_length_le eb.le, List.take_of_length_le ec.le,
    List.take_of_length_le ed.le, beNat_pad, beNat_pad, beNat_pad, beNat_pad, v1, v2]
  push_cast
  module

end Secp.Proofs.ScalarMultLoop
