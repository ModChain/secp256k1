import Secp.Model.ScalarMult
import Secp.Proofs.Bytes
/-
  Proofs/ScalarMultNaf — the byte loop of `naf` (curve.go) produces two digit strings with
  pos − neg = k, of equal length, with no overlapping bits.  Core-only.
-/

namespace Secp.Proofs.ScalarMultNaf
open Secp.Spec Secp.Model Secp.Proofs.Bytes

/-- one byte of `nafLoop`; `hw` is `nextWord <<< 7` -/
def nafStep (b carry hw : UInt8) : UInt8 × UInt8 × UInt8 :=
  let kc : UInt16 := b.toUInt16 + carry.toUInt16
  let halfK : UInt16 := (kc >>> 1) ||| hw.toUInt16
  let threeHalfK : UInt16 := kc + halfK
  let nz : UInt16 := threeHalfK ^^^ halfK
  ((threeHalfK &&& nz).toUInt8, (halfK &&& nz).toUInt8, (threeHalfK >>> 8).toUInt8)

def nextWord : List UInt8 → UInt8
  | [] => 0
  | n :: _ => n

theorem nafLoop_nil (carry : UInt8) (pos neg : List UInt8) :
    nafLoop [] carry pos neg = (pos, neg, carry) := rfl

theorem nafLoop_cons (b : UInt8) (rest : List UInt8) (carry : UInt8) (pos neg : List UInt8) :
    nafLoop (b :: rest) carry pos neg =
      nafLoop rest (nafStep b carry (nextWord rest <<< 7)).2.2
        ((nafStep b carry (nextWord rest <<< 7)).1 :: pos)
        ((nafStep b carry (nextWord rest <<< 7)).2.1 :: neg) := by
  cases rest <;> rfl

def StepOK (b c hw : UInt8) : Prop :=
  (nafStep b c hw).1.toNat + 256 * (nafStep b c hw).2.2.toNat
      = b.toNat + c.toNat + (nafStep b c hw).2.1.toNat ∧
  (nafStep b c hw).2.2.toNat ≤ 1 ∧
  (nafStep b c hw).1 &&& (nafStep b c hw).2.1 = 0

instance (b c hw : UInt8) : Decidable (StepOK b c hw) := by unfold StepOK; infer_instance

/-- only the low bit of the next byte enters a step: two cases of `hw` instead of 256 in the
    exhaustive check below -/
theorem shl7_mod2 : ∀ w, w < 256 → (UInt8.ofNat w) <<< 7 = UInt8.ofNat (128 * (w % 2)) := by
  decide +kernel

theorem stepOK_of_carry_le (b c w : UInt8) (hc : c.toNat ≤ 1) : StepOK b c (w <<< 7) := by
  have fin : ∀ b, b < 256 → ∀ c, c < 2 → ∀ h, h < 2 →
      StepOK (UInt8.ofNat b) (UInt8.ofNat c) (UInt8.ofNat (128 * h)) := by decide +kernel
  have he := shl7_mod2 w.toNat w.toNat_lt
  have := fin b.toNat b.toNat_lt c.toNat (by omega) (w.toNat % 2) (by omega)
  rwa [← he, UInt8.ofNat_toNat, UInt8.ofNat_toNat, UInt8.ofNat_toNat] at this

theorem nafLoop_acc (l : List UInt8) : ∀ (c : UInt8) (pos neg : List UInt8),
    nafLoop l c pos neg =
      ((nafLoop l c [] []).1 ++ pos, (nafLoop l c [] []).2.1 ++ neg, (nafLoop l c [] []).2.2) := by
  induction l with
  | nil => intro c pos neg; simp [nafLoop_nil]
  | cons b rest ih =>
    intro c pos neg
    rw [nafLoop_cons, nafLoop_cons, ih, ih _ [_] [_]]
    simp

theorem take_succ_reverse (ks : Bytes) (m : Nat) (hm : m < ks.length) :
    (ks.take (m + 1)).reverse = ks.getD m 0 :: (ks.take m).reverse := by
  rw [take_succ_getD ks m hm, List.reverse_append]
  rfl

theorem nextWord_take (ks : Bytes) (m : Nat) (hm : m ≤ ks.length) :
    nextWord (ks.take m).reverse = if m > 0 then ks.getD (m - 1) 0 else 0 := by
  cases m with
  | zero => rfl
  | succ j =>
    rw [take_succ_reverse ks j hm, if_pos (Nat.succ_pos j)]
    rfl

theorem and_getD_append {a b a' b' : Bytes} (hl : a.length = b.length)
    (h : ∀ i, a.getD i 0 &&& b.getD i 0 = 0) (h' : ∀ i, a'.getD i 0 &&& b'.getD i 0 = 0) (i : Nat) :
    (a ++ a').getD i 0 &&& (b ++ b').getD i 0 = 0 := by
  simp only [List.getD_eq_getElem?_getD] at h h' ⊢
  by_cases hi : i < a.length
  · rw [List.getElem?_append_left hi, List.getElem?_append_left (hl ▸ hi)]
    exact h i
  · rw [List.getElem?_append_right (by omega), List.getElem?_append_right (by omega), hl]
    exact h' _

theorem nafLoop_spec (l : List UInt8) : ∀ (c : UInt8), c.toNat ≤ 1 →
    (nafLoop l c [] []).1.length = l.length ∧ (nafLoop l c [] []).2.1.length = l.length ∧
    (nafLoop l c [] []).2.2.toNat ≤ 1 ∧
    (nafLoop l c [] []).2.2.toNat * 256 ^ l.length + beNat (nafLoop l c [] []).1
      = beNat l.reverse + c.toNat + beNat (nafLoop l c [] []).2.1 ∧
    ∀ i, (nafLoop l c [] []).1.getD i 0 &&& (nafLoop l c [] []).2.1.getD i 0 = 0 := by
  induction l with
  | nil =>
    intro c hc
    exact ⟨rfl, rfl, hc, by simp [nafLoop_nil, beNat_nil], fun i => by simp [nafLoop_nil]⟩
  | cons b rest ih =>
    intro c hc
    obtain ⟨h1, h2, h3⟩ := stepOK_of_carry_le b c (nextWord rest) hc
    rw [nafLoop_cons, nafLoop_acc]
    generalize nafStep b c (nextWord rest <<< 7) = s at h1 h2 h3
    obtain ⟨p, n, c1⟩ := s
    obtain ⟨l1, l2, hc', hv, hno⟩ := ih c1 h2
    generalize nafLoop rest c1 [] [] = r at l1 l2 hc' hv hno
    obtain ⟨dp, dn, c2⟩ := r
    simp only at h1 h2 h3 l1 l2 hc' hv hno ⊢
    refine ⟨by simp [l1], by simp [l2], hc', ?_,
      and_getD_append (l1.trans l2.symm) hno (fun i => by cases i <;> simp [h3])⟩
    rw [List.reverse_cons, beNat_snoc, beNat_snoc, beNat_snoc, List.length_cons, Nat.pow_succ,
      ← Nat.mul_assoc]
    generalize c2.toNat * 256 ^ rest.length = A at hv
    omega

/-- the window `naf` cuts out of a padded 33-entry array -/
theorem take_drop_pad (c : UInt8) {d : Bytes} {n : Nat} (h : d.length = n) (z s : Nat) :
    (((c :: d) ++ List.replicate z 0).take (n + 1)).drop s = (c :: d).drop s := by
  rw [List.take_left' (by simp [h])]

theorem naf_shape (k : Bytes) :
    ∃ (c : UInt8) (dp dn : List UInt8), c.toNat ≤ 1 ∧
      dp.length = (stripZeros k).length ∧ dn.length = (stripZeros k).length ∧
      (naf k).posBytes = (c :: dp).drop (1 - c.toNat) ∧
      (naf k).negBytes = ((0 : UInt8) :: dn).drop (1 - c.toNat) ∧
      c.toNat * 256 ^ (stripZeros k).length + beNat dp = beNat k + beNat dn ∧
      ∀ i, dp.getD i 0 &&& dn.getD i 0 = 0 := by
  obtain ⟨l1, l2, hc, hv, hno⟩ := nafLoop_spec (stripZeros k).reverse 0 (by decide)
  rw [List.length_reverse] at l1 l2 hv
  rw [List.reverse_reverse, beNat_stripZeros] at hv
  exact ⟨_, _, _, hc, l1, l2, take_drop_pad _ l1 _ _, take_drop_pad _ l2 _ _, by simpa using hv, hno⟩

theorem naf_spec (k : Bytes) : let n := naf k
    n.posBytes.length = n.negBytes.length ∧ beNat n.posBytes = beNat k + beNat n.negBytes ∧
    ∀ i, (n.posBytes.getD i 0) &&& (n.negBytes.getD i 0) = 0 := by
  intro n
  obtain ⟨c, dp, dn, hc, l1, l2, ep, en, hv, hno⟩ := naf_shape k
  show (naf k).posBytes.length = (naf k).negBytes.length ∧
    beNat (naf k).posBytes = beNat k + beNat (naf k).negBytes ∧
    ∀ i, ((naf k).posBytes.getD i 0) &&& ((naf k).negBytes.getD i 0) = 0
  rw [ep, en]
  have hc01 : c.toNat = 0 ∨ c.toNat = 1 := by omega
  rcases hc01 with h0 | h1
  · rw [h0] at hv ⊢
    simp only [Nat.sub_zero, List.drop_succ_cons, List.drop_zero]
    refine ⟨by rw [l1, l2], by omega, hno⟩
  · rw [h1] at hv ⊢
    simp only [Nat.sub_self, List.drop_zero]
    refine ⟨by simp [l1, l2], ?_, ?_⟩
    · rw [beNat_cons, beNat_zero_cons, h1, l1]; omega
    · intro i
      cases i with
      | zero => simp
      | succ j => simpa using hno j

end Secp.Proofs.ScalarMultNaf
