import Secp.Proofs.ScalarMultLoop
import Secp.Proofs.ScalarMultNaf
import Secp.Proofs.ScalarMultEndo
import Secp.Proofs.SpecOrder
import Mathlib.Util.TermReduce
/-
  Proofs/ScalarMultSpec — the assembly for `ScalarMultNonConst`: `scalarMultNC` is the digit loop
  `smLoop` on sign-adjusted points and scalars (`scalarMultNC_eq`), and with the loop invariant of
  ScalarMultLoop, the digit strings of ScalarMultNaf and the split and endomorphism of ScalarMultEndo it
  returns k•P in the executable specification (`scalarMult_spec`), given the two point routines (`PointOps'`).
-/

namespace Secp.Proofs.ScalarMultSpec
open Secp.Spec Secp.Model Secp.Proofs.SpecGroup Secp.Proofs.ScalarMultJac
open Secp.Proofs.ScalarMultLoop Secp.Proofs.ScalarMultEndo
open Secp.Proofs.Bytes (beNat_be32_of_lt)

/-- the same proposition as `ScalarMultJac.PointOps'` (`pointOps'_iff`), and the one the name means
    inside this namespace; the lemmas of ScalarMultLoop are stated with the other and accept this one
    by unfolding.  A new lemma takes `ScalarMultJac.PointOps'` -/
def PointOps' : Prop :=
  (∀ q p, Jac.WF q → Jac.WF p →
    Jac.WF (addNC q p) ∧ Jac.toPt (addNC q p) = Pt.add (Jac.toPt q) (Jac.toPt p)) ∧
  (∀ q, Jac.WF q → Jac.WF (dblNC q) ∧ Jac.toPt (dblNC q) = Pt.dbl (Jac.toPt q))

theorem pointOps'_iff : PointOps' ↔ Secp.Proofs.ScalarMultJac.PointOps' := Iff.rfl

theorem pointOps'_of_pointOps (h : PointOps) : PointOps' := ⟨h.add, h.dbl⟩

theorem splitK_spec (k : Nat) : let (k1, k2) := splitK k
    k1 < N ∧ k2 < N ∧ (k1 + k2 * ((N - endoNegLambda) % N)) % N = k % N :=
  Secp.Proofs.ScalarMultEndo.splitK_spec k

/-- `scalarMultNC` as the digit loop `smLoop` on the sign-adjusted points and scalars.
    The scalar decomposition, (N−1)/2 and β are abstracted BEFORE any match is reduced, so that the
    kernel never evaluates `k1 > halfN` on the open term `splitK k` (which makes it unfold
    `Nat.ble` on 256-bit literals). -/
theorem scalarMultNC_eq (k x y z : Nat) :
    scalarMultNC k (x, y, z) =
      smLoop
        (if (splitK k).1 > halfN then (x, fneg y, z) else (x, y, z))
        (if (splitK k).1 > halfN then (x, y, z) else (x, fneg y, z))
        (if (splitK k).2 > halfN then (fmul x endoBeta, fneg y, z) else (fmul x endoBeta, y, z))
        (if (splitK k).2 > halfN then (fmul x endoBeta, y, z) else (fmul x endoBeta, fneg y, z))
        (naf (be32 (if (splitK k).1 > halfN then nneg (splitK k).1 else (splitK k).1))).posBytes
        (naf (be32 (if (splitK k).1 > halfN then nneg (splitK k).1 else (splitK k).1))).negBytes
        (naf (be32 (if (splitK k).2 > halfN then nneg (splitK k).2 else (splitK k).2))).posBytes
        (naf (be32 (if (splitK k).2 > halfN then nneg (splitK k).2 else (splitK k).2))).negBytes := by
  rw [show scalarMultNC = delta% scalarMultNC from rfl]
  beta_reduce
  generalize splitK k = sk
  generalize halfN = hn
  generalize endoBeta = eb
  obtain ⟨k1, k2⟩ := sk
  unfold smLoop
  by_cases h1 : k1 > hn <;> by_cases h2 : k2 > hn <;>
    simp only [h1, h2, if_true, if_false]

theorem pair_ite {p pn : Jac} {Q : E.Point} (h : PtPair p pn Q) (c : Prop) [Decidable c] :
    PtPair (if c then pn else p) (if c then p else pn) (if c then -Q else Q) := by
  by_cases hc : c
  · simp only [hc, if_true]
    exact ⟨h.wfn, h.wf, h.validn, h.valid, h.eqn, by rw [neg_neg]; exact h.eq⟩
  · simp only [hc, if_false]; exact h

theorem affine_pair {x y : Nat} (h : Valid (some (x, y))) :
    PtPair (x, y, 1) (x, fneg y, 1) (toE (some (x, y))) := by
  have hn : Valid (some (x, fneg y)) := valid_neg h
  have en : toE (some (x, fneg y)) = - toE (some (x, y)) := toE_neg h
  obtain ⟨w, e⟩ := affine_spec h
  obtain ⟨wn, e'⟩ := affine_spec hn
  exact ⟨w, wn, by rw [e]; exact h, by rw [e']; exact hn, by rw [e], by rw [e', en]⟩

theorem nsmul_of_mod {Q : E.Point} (hN : N • Q = 0) {a b : Nat} (h : a % N = b % N) :
    a • Q = b • Q := by
  rw [nsmul_eq_mod_nsmul a hN, nsmul_eq_mod_nsmul b hN, h]

theorem signed_smul {Q : E.Point} (hN : N • Q = 0) (k : Nat) (c : Prop) [Decidable c] :
    (((if c then nneg k else k : Nat)) : ℤ) • (if c then -Q else Q) = (k : ℤ) • Q := by
  by_cases hc : c
  · simp only [hc, if_true]
    have h := nsmul_of_mod hN (show (nneg k + k) % N = 0 % N by
      rw [mod_N_eq_iff, Nat.cast_add, nneg_cast]; simp)
    rw [zero_nsmul, add_nsmul] at h
    rw [natCast_zsmul, natCast_zsmul, neg_nsmul]
    exact (eq_neg_of_add_eq_zero_right h).symm
  · simp only [hc, if_false]

theorem beNat_be32_signed (c : Prop) [Decidable c] {a : Nat} (ha : a < N) :
    beNat (be32 (if c then nneg a else a)) = if c then nneg a else a := by
  have := Secp.Proofs.Bytes.N_lt_pow
  have := nneg_lt a
  exact beNat_be32_of_lt (by split <;> omega)

/-- the digit loop on sign-adjusted scalars and points, for abstract scalars `k1 k2 < N`, an
    abstract threshold `hn`, a point `(x, y)` of order dividing N and a second point `(x2, y)`
    equal to `lam • (x, y)` -/
theorem smCore (ho : PointOps') (k1 k2 hn lam x y x2 : Nat) (hk1 : k1 < N) (hk2 : k2 < N)
    (hv : Valid (some (x, y))) (hN : N • toE (some (x, y)) = 0)
    (hv2 : Valid (some (x2, y))) (he2 : toE (some (x2, y)) = lam • toE (some (x, y))) :
    Acc (smLoop
        (if k1 > hn then (x, fneg y, 1) else (x, y, 1))
        (if k1 > hn then (x, y, 1) else (x, fneg y, 1))
        (if k2 > hn then (x2, fneg y, 1) else (x2, y, 1))
        (if k2 > hn then (x2, y, 1) else (x2, fneg y, 1))
        (naf (be32 (if k1 > hn then nneg k1 else k1))).posBytes
        (naf (be32 (if k1 > hn then nneg k1 else k1))).negBytes
        (naf (be32 (if k2 > hn then nneg k2 else k2))).posBytes
        (naf (be32 (if k2 > hn then nneg k2 else k2))).negBytes)
      ((k1 + k2 * lam) • toE (some (x, y))) := by
  have hN2 : N • toE (some (x2, y)) = 0 := by
    rw [he2, smul_comm, hN, nsmul_zero]
  have pair1 := pair_ite (affine_pair hv) (k1 > hn)
  have pair2 := pair_ite (affine_pair hv2) (k2 > hn)
  generalize hK1 : (if k1 > hn then nneg k1 else k1) = K1 at *
  generalize hK2 : (if k2 > hn then nneg k2 else k2) = K2 at *
  have b1 : beNat (be32 K1) = K1 := by rw [← hK1]; exact beNat_be32_signed _ hk1
  have b2 : beNat (be32 K2) = K2 := by rw [← hK2]; exact beNat_be32_signed _ hk2
  obtain ⟨l1, v1, o1⟩ := Secp.Proofs.ScalarMultNaf.naf_spec (be32 K1)
  obtain ⟨l2, v2, o2⟩ := Secp.Proofs.ScalarMultNaf.naf_spec (be32 K2)
  rw [b1] at v1
  rw [b2] at v2
  have acc := smLoop_spec ho pair1 pair2 (naf (be32 K1)).posBytes (naf (be32 K1)).negBytes
    (naf (be32 K2)).posBytes (naf (be32 K2)).negBytes K1 K2 l1 l2 v1 v2 o1 o2
  refine acc_congr acc ?_
  rw [← hK1, ← hK2, signed_smul hN, signed_smul hN2, he2, natCast_zsmul, natCast_zsmul,
    ← mul_nsmul', ← add_nsmul]

/-- for EVERY scalar `k` (the split reduces it mod N) and every multiple of `G` -/
theorem scalarMult_spec (ho : PointOps') (k x y m : Nat) (hxy : OnCurve x y)
    (hm : smul m G = some (x, y)) :
    Jac.WF (scalarMultNC k (x, y, 1)) ∧
      Jac.toPt (scalarMultNC k (x, y, 1)) = smul k (some (x, y)) := by
  have hv : Valid (some (x, y)) := hxy
  have hN : N • toE (some (x, y)) = 0 := by
    rw [← hm, toE_smul _ valid_G, smul_comm, ← toE_smul _ valid_G, smul_N_G, toE_none, nsmul_zero]
  have hendo := Secp.Proofs.ScalarMultEndo.endo_spec m x y hm
  have hv2 : Valid (some (fmul x endoBeta, y)) := valid_endo hv
  have he2 : toE (some (fmul x endoBeta, y)) = ((N - endoNegLambda) % N) • toE (some (x, y)) := by
    rw [← hendo, toE_smul _ hv]
  obtain ⟨hk1, hk2, hsplit⟩ := splitK_spec' k
  have acc := smCore ho (splitK k).1 (splitK k).2 halfN ((N - endoNegLambda) % N) x y
    (fmul x endoBeta) hk1 hk2 hv hN hv2 he2
  rw [← scalarMultNC_eq] at acc
  exact acc_smul (acc_congr acc (nsmul_of_mod hN hsplit)) hv

end Secp.Proofs.ScalarMultSpec
