import Secp.Proofs.ScalarMultJac
/-
  Proofs/ScalarMultTable — the base-point table of `Gen.Table` holds the multiples (j·256^(31−i))•G.

  The table is checked by one kernel evaluation of `tableOK`.  Each of its 8192 entries is tied to its
  predecessor by the chord rule `entry (j+1) = entry j + step`, in the cross-multiplied form that needs no
  field inversion (`chordOK`); the one tangent step per row and the link between rows (the step of row i is
  entry 255 of row i+1 plus the step of row i+1) are certified the same way.
-/

namespace Secp.Proofs.ScalarMultTable
open Secp.Spec Secp.Model Secp.Proofs.SpecGroup Secp.Proofs.ScalarMultJac

/-- `b = a + B` by the chord rule with the slope `dy/dx` cleared:
    `(x_b + x_a + x_B)·dx² = dy²` and `(y_b + y_a)·dx = dy·(x_a − x_b)` -/
def chordOK (a B b : Nat × Nat) : Bool :=
  let dx := fsub B.1 a.1
  let dy := fsub B.2 a.2
  b.1 < P && b.2 < P && a.1 != B.1 &&
    fmul (fadd (fadd b.1 a.1) B.1) (fsq dx) == fsq dy &&
    fmul (fadd b.2 a.2) dx == fmul dy (fsub a.1 b.1)

/-- `b = 2·B` by the tangent rule with the slope `3x²/2y` cleared -/
def tangentOK (B b : Nat × Nat) : Bool :=
  let dx := fmul 2 B.2
  let dy := fmul 3 (fsq B.1)
  b.1 < P && b.2 < P &&
    fmul (fadd b.1 (fmul 2 B.1)) (fsq dx) == fsq dy &&
    fmul (fadd b.2 B.2) dx == fmul dy (fsub B.1 b.1)

def progOK (B : Nat × Nat) : List (Nat × Nat) → Bool
  | a :: b :: rest => chordOK a B b && progOK B (b :: rest)
  | _ => true

/-- a row `[(0,0), B, 2B, 3B, …]` of 256 entries -/
def rowProgOK : List (Nat × Nat) → Bool
  | z :: B :: c :: rest => z == (0, 0) && rest.length == 253 && tangentOK B c && progOK B (c :: rest)
  | _ => false

def row (i : Nat) : Array (Nat × Nat) := Secp.Gen.Table.rows.getD i #[]

/-- the step of row i: its entry 1 -/
def base (i : Nat) : Nat × Nat := (row i).getD 1 (0, 0)

/-- every row is a progression; the last row steps by `G`, row i by 256 times the step of row i+1 -/
def tableOK : Bool :=
  (List.range 32).all fun i =>
    rowProgOK (row i).toList &&
      if i = 31 then base 31 == (Gx, Gy) else chordOK ((row (i + 1)).getD 255 (0, 0)) (base (i + 1)) (base i)

theorem tableOK_true : tableOK = true := by decide +kernel

/-- chord and tangent rule with the slope `n/d` cleared -/
theorem slope_cleared {F : Type} [Field F] {n d x1 x2 y1 x3 y3 : F} (hd : d ≠ 0)
    (hX : (x3 + x1 + x2) * (d * d) = n * n) (hY : (y3 + y1) * d = n * (x1 - x3)) :
    x3 = (n * d⁻¹) ^ 2 - x1 - x2 ∧ y3 = n * d⁻¹ * (x1 - ((n * d⁻¹) ^ 2 - x1 - x2)) - y1 := by
  have e : x3 = (n * d⁻¹) ^ 2 - x1 - x2 := by
    field_simp
    linear_combination hX
  refine ⟨e, ?_⟩
  rw [← e]
  field_simp
  linear_combination hY

theorem chordOK_spec {a B b : Nat × Nat} (ha : Valid (some a)) (hB : Valid (some B))
    (h : chordOK a B b = true) : Pt.add (some a) (some B) = some b := by
  obtain ⟨x1, y1⟩ := a
  obtain ⟨x2, y2⟩ := B
  obtain ⟨x3, y3⟩ := b
  simp only [chordOK, Bool.and_eq_true, decide_eq_true_eq, bne_iff_ne, beq_iff_eq] at h
  obtain ⟨⟨⟨⟨h3x, h3y⟩, hne⟩, hX⟩, hY⟩ := h
  have hx : x1 % P ≠ x2 % P := by rwa [Nat.mod_eq_of_lt ha.1, Nat.mod_eq_of_lt hB.1]
  have hd : (x2 : ZMod P) - x1 ≠ 0 :=
    sub_ne_zero.2 fun e => hx ((mod_P_eq_iff _ _).2 e.symm)
  have hX' := congrArg (Nat.cast : Nat → ZMod P) hX
  have hY' := congrArg (Nat.cast : Nat → ZMod P) hY
  simp only [fmul_cast, fadd_cast, fsq_cast, fsub_cast] at hX' hY'
  exact (add_some_iff hx).2 ⟨h3x, h3y, slope_cleared hd hX' hY'⟩

theorem tangentOK_spec {B b : Nat × Nat} (hB : Valid (some B)) (h : tangentOK B b = true) :
    Pt.add (some B) (some B) = some b := by
  obtain ⟨x, y⟩ := B
  obtain ⟨x3, y3⟩ := b
  simp only [tangentOK, Bool.and_eq_true, decide_eq_true_eq, beq_iff_eq] at h
  obtain ⟨⟨⟨h3x, h3y⟩, hX⟩, hY⟩ := h
  have hd : (2 : ZMod P) * y ≠ 0 :=
    mul_ne_zero two_ne_zero_P (y_ne_zero ((curve_cast x y).1 hB.2.2))
  have hX' := congrArg (Nat.cast : Nat → ZMod P) hX
  have hY' := congrArg (Nat.cast : Nat → ZMod P) hY
  simp only [fmul_cast, fadd_cast, fsq_cast, fsub_cast, Nat.cast_ofNat] at hX' hY'
  obtain ⟨eX, eY⟩ := slope_cleared (x1 := (x : ZMod P)) (x2 := x) hd
    (by linear_combination hX') hY'
  rw [add_self, dbl_some_iff hB.y_mod_ne]
  exact ⟨h3x, h3y, by rw [eX, tgX]; ring, by rw [eY, tgY, tgX]; ring⟩

/-! From here on "a is the multiple c of B" is the equation `some a = smul c (some B)` of spec points;
on valid points it is the equation `toE a = c • toE B` in the group (`toE_injective_on_valid`). -/

theorem smul_succ' {B : Pt} (hB : Valid B) (c : Nat) : Pt.add (smul c B) B = smul (c + 1) B := by
  rw [← add_smul_smul hB c 1, smul_one' hB]

theorem progOK_spec {B : Nat × Nat} (hB : Valid (some B)) :
    ∀ (l : List (Nat × Nat)) (a : Nat × Nat) (c : Nat), progOK B (a :: l) = true →
      some a = smul c (some B) →
      ∀ j, j < (a :: l).length → some ((a :: l).getD j (0, 0)) = smul (c + j) (some B)
  | [], a, c, _, he, j, hj => by
    obtain rfl : j = 0 := by simpa using hj
    exact he
  | b :: rest, a, c, hc, he, j, hj => by
    rw [progOK, Bool.and_eq_true] at hc
    have hb : some b = smul (c + 1) (some B) := by
      rw [← chordOK_spec (he ▸ valid_smul c hB) hB hc.1, he, smul_succ' hB]
    cases j with
    | zero => exact he
    | succ j =>
      rw [show c + (j + 1) = c + 1 + j by omega]
      exact progOK_spec hB rest b (c + 1) hc.2 hb j (by simpa using hj)

theorem rowProgOK_spec {r : List (Nat × Nat)} (h : rowProgOK r = true) (hB : Valid (some (r.getD 1 (0, 0))))
    (j : Nat) (hj : j < 256) :
    r.getD 0 (0, 0) = (0, 0) ∧
      (1 ≤ j → some (r.getD j (0, 0)) = smul j (some (r.getD 1 (0, 0)))) := by
  match r, h with
  | z :: B :: c :: rest, h =>
    simp only [rowProgOK, Bool.and_eq_true, beq_iff_eq] at h
    obtain ⟨⟨⟨rfl, hlen⟩, ht⟩, hp⟩ := h
    have hB : Valid (some B) := hB
    have hc : some c = smul 2 (some B) := by
      rw [← tangentOK_spec hB ht, ← smul_succ' hB 1, smul_one' hB]
    refine ⟨rfl, fun hj1 => ?_⟩
    obtain ⟨_ | j, rfl⟩ : ∃ j', j = j' + 1 := ⟨j - 1, by omega⟩
    · exact (smul_one' hB).symm
    · have := progOK_spec hB rest c 2 hp hc j (by simp only [List.length_cons]; omega)
      rwa [show 2 + j = j + 1 + 1 by omega] at this

theorem tableOK_at (i : Nat) (hi : i < 32) :
    rowProgOK (row i).toList = true ∧
      (if i = 31 then base 31 == (Gx, Gy)
        else chordOK ((row (i + 1)).getD 255 (0, 0)) (base (i + 1)) (base i)) = true := by
  have := List.all_eq_true.1 tableOK_true i (List.mem_range.2 hi)
  rwa [Bool.and_eq_true] at this

theorem toList_getD {α : Type} (a : Array α) (j : Nat) (d : α) : a.toList.getD j d = a.getD j d := by
  simp [Array.getD_eq_getD_getElem?, List.getD_eq_getElem?_getD]

theorem row_spec {i j : Nat} (hi : i < 32) (hB : Valid (some (base i))) (hj : j < 256) :
    (row i).getD 0 (0, 0) = (0, 0) ∧
      (1 ≤ j → some ((row i).getD j (0, 0)) = smul j (some (base i))) := by
  simpa only [toList_getD, base] using
    rowProgOK_spec (tableOK_at i hi).1 (by rwa [toList_getD]) j hj

theorem base_spec : ∀ d, d ≤ 31 → some (base (31 - d)) = smul (256 ^ d) G
  | 0, _ => by
    have := (tableOK_at 31 (by omega)).2
    rw [if_pos rfl, beq_iff_eq] at this
    rw [Nat.sub_zero, this, Nat.pow_zero, smul_one' valid_G]; rfl
  | d + 1, hd => by
    have he := base_spec d (by omega)
    have hv : Valid (some (base (31 - d))) := he ▸ valid_smul _ valid_G
    have hlink := (tableOK_at (31 - (d + 1)) (by omega)).2
    rw [if_neg (by omega), show 31 - (d + 1) + 1 = 31 - d by omega] at hlink
    have e255 := (row_spec (j := 255) (by omega) hv (by omega)).2 (by omega)
    rw [← chordOK_spec (e255 ▸ valid_smul _ hv) hv hlink, e255, smul_succ' hv, he,
      smul_smul' valid_G, Nat.pow_succ, Nat.mul_comm]

theorem table_spec (i j : Nat) (hi : i < 32) (hj : j < 256) :
    Jac.WF (tablePoint i j) ∧ Jac.toPt (tablePoint i j) = smul (j * 256 ^ (31 - i)) G := by
  have ht : tablePoint i j = (((row i).getD j (0, 0)).1, ((row i).getD j (0, 0)).2, 1) := rfl
  have heB := base_spec (31 - i) (by omega)
  rw [show 31 - (31 - i) = i by omega] at heB
  obtain ⟨h0, hpos⟩ := row_spec hi (heB ▸ valid_smul _ valid_G) hj
  rw [ht]
  by_cases hj0 : j = 0
  · subst hj0
    rw [h0, Nat.zero_mul, smul_zero']
    exact ⟨PointOps.WF_of_inf ⟨P_pos, P_pos, one_lt_P⟩ rfl, PointOps.toPt_of_inf rfl⟩
  · have hs := hpos (by omega)
    rw [heB, smul_smul' valid_G] at hs
    rw [← hs]
    exact affine_spec (x := ((row i).getD j (0, 0)).1) (y := ((row i).getD j (0, 0)).2)
      (hs ▸ valid_smul _ valid_G)

end Secp.Proofs.ScalarMultTable
