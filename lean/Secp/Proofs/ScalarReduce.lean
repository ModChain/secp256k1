import Secp.Proofs.ScalarLemmas
import Mathlib.Tactic.Ring
import Mathlib.Tactic.LinearCombination
/-
  Proofs/ScalarReduce — the two Go functions that `reduce385`, `reduce512` and `Mul2` all inline,
  as lemmas over the SSA equations of a run.  First the size facts, lemmas on atoms; then
  `tail385` (13 words to a canonical scalar: the high five words times `2^256 − N` added to the
  low eight, then twice `reduce256` around `overflows`); then `fold512` (16 words to 13: the same
  fold with eight high words), whose result `tail385` takes.  Each phase is a carry chain; what
  the columns add up to is a polynomial identity (`ring`).
-/
namespace Secp.Proofs.ScalarReduce
open Secp.IR Secp.Limbs Secp.Spec Secp.Radix Secp.Proofs.ScalarLemmas

theorem top_lt {a w K M X : Nat} (h : a + w * K = X) (hX : X < K * M) : w < M :=
  Nat.lt_of_mul_lt_mul_left (a := K) (Nat.lt_of_le_of_lt (Nat.mul_comm w K ▸ Nat.le_add_left _ a) (h ▸ hX))

/-- nine words folded to eight: what `cond_sub` asks of `S` -/
theorem fold9_lt_2N {lo w : Nat} (hlo : lo < 2 ^ 256) (hw : w < 2 ^ 32) : lo + w * (2 ^ 256 - N) < N + N := by
  simp only [N]; omega

theorem carry_le_one {W c S : Nat} (h : W + c * 2 ^ 256 = S) (hS : S < N + N) : c ≤ 1 := by
  simp only [N] at hS; omega

/-- the fold of 16 words fits 13: its top carry is a word -/
theorem fold16_lt {tl th : Nat} (htl : tl < 2 ^ 256) (hth : th < 2 ^ 256) :
    tl + th * (2 ^ 256 - N) < (2 ^ 32) ^ 12 * 2 ^ 32 := by
  simp only [N]; omega

/-- the hypothesis `hb` of `tail385` for 13 words `tl + 2^256·th` below 2^385 .. -/
theorem hb_of_lt385 {tl th : Nat} (htl : tl < 2 ^ 256) (h : tl + 2 ^ 256 * th < 2 ^ 256 * 2 ^ 129) :
    tl + th * (2 ^ 256 - N) < 2 ^ 256 * 2 ^ 32 := by
  simp only [N]; omega

/-- .. and for 13 words `xl + 2^256·xh` that came out of the fold of 16, `tl + 2^256·th` -/
theorem hb_of_fold512 {xl xh tl th : Nat} (hxl : xl < 2 ^ 256) (htl : tl < 2 ^ 256) (hth : th < 2 ^ 256)
    (h : xl + 2 ^ 256 * xh = tl + th * (2 ^ 256 - N)) : xl + xh * (2 ^ 256 - N) < 2 ^ 256 * 2 ^ 32 := by
  simp only [N] at *; omega

/-- the whole `reduce385` code path on 13 words, provided the first fold fits 9 words (the base is
    a variable in the equations for the reason given at `ScalarLemmas.chain8`) -/
theorem tail385 {B t0 t1 t2 t3 t4 t5 t6 t7 t8 t9 t10 t11 t12 w0 w1 w2 w3 w4 w5 w6 w7 w8 w9 w10 w11 w12 w13 w14 w15 w16 w17 w18 w19 w20 w21 w22 w23 w24 w25 w26 w27 w28 w29 w30 w31 w32 w33 w34 w35 w36 w37 w38 w39 w40 w41 w42 w43 w44 w45 w46 w47 w48 w49 w50 w51 w52 w53 w54 w55 w56 w57 w58 w59 w60 w61 w62 w63 w64 w65 w66 w67 w68 w69 w70 w71 w72 w73 w74 w75 w76 w77 w78 w79 w80 w81 w82 w83 w84 w85 w86 w87 w88 w89 w90 w91 w92 w93 w94 w95 w96 w97 w98 w99 : Nat}
    (bt0 : t0 < 2 ^ 32)
    (hb : (⟨t0, t1, t2, t3, t4, t5, t6, t7⟩ : L8).val + val (2 ^ 32) [t8, t9, t10, t11, t12] * (2 ^ 256 - N)
      < 2 ^ 256 * 2 ^ 32)
    (e0 : w0 = t0 % B)
    (e1 : w1 = w0 + t8 * 801750719)
    (e2 : w2 = w1 % B)
    (e3 : w3 = w1 / B)
    (e4 : w4 = w3 + t1)
    (e5 : w5 = w4 + t8 * 1076732275)
    (e6 : w6 = w5 + t9 * 801750719)
    (e7 : w7 = w6 % B)
    (e8 : w8 = w6 / B)
    (e9 : w9 = w8 + t2)
    (e10 : w10 = w9 + t8 * 1354194884)
    (e11 : w11 = w10 + t9 * 1076732275)
    (e12 : w12 = w11 + t10 * 801750719)
    (e13 : w13 = w12 % B)
    (e14 : w14 = w12 / B)
    (e15 : w15 = w14 + t3)
    (e16 : w16 = w15 + t8 * 1162945305)
    (e17 : w17 = w16 + t9 * 1354194884)
    (e18 : w18 = w17 + t10 * 1076732275)
    (e19 : w19 = w18 + t11 * 801750719)
    (e20 : w20 = w19 % B)
    (e21 : w21 = w19 / B)
    (e22 : w22 = w21 + t4)
    (e23 : w23 = w22 + t8)
    (e24 : w24 = w23 + t9 * 1162945305)
    (e25 : w25 = w24 + t10 * 1354194884)
    (e26 : w26 = w25 + t11 * 1076732275)
    (e27 : w27 = w26 + t12 * 801750719)
    (e28 : w28 = w27 % B)
    (e29 : w29 = w27 / B)
    (e30 : w30 = w29 + t5)
    (e31 : w31 = w30 + t9)
    (e32 : w32 = w31 + t10 * 1162945305)
    (e33 : w33 = w32 + t11 * 1354194884)
    (e34 : w34 = w33 + t12 * 1076732275)
    (e35 : w35 = w34 % B)
    (e36 : w36 = w34 / B)
    (e37 : w37 = w36 + t6)
    (e38 : w38 = w37 + t10)
    (e39 : w39 = w38 + t11 * 1162945305)
    (e40 : w40 = w39 + t12 * 1354194884)
    (e41 : w41 = w40 % B)
    (e42 : w42 = w40 / B)
    (e43 : w43 = w42 + t7)
    (e44 : w44 = w43 + t11)
    (e45 : w45 = w44 + t12 * 1162945305)
    (e46 : w46 = w45 % B)
    (e47 : w47 = w45 / B)
    (e48 : w48 = w47 + t12)
    (e49 : w49 = w48 % B)
    (e50 : w50 = w2 + w49 * 801750719)
    (e51 : w51 = w50 % B)
    (e52 : w52 = w50 / B + (w7 + w49 * 1076732275))
    (e53 : w53 = w52 % B)
    (e54 : w54 = w52 / B + (w13 + w49 * 1354194884))
    (e55 : w55 = w54 % B)
    (e56 : w56 = w54 / B + (w20 + w49 * 1162945305))
    (e57 : w57 = w56 % B)
    (e58 : w58 = w56 / B + (w28 + w49))
    (e59 : w59 = w58 % B)
    (e60 : w60 = w58 / B + w35)
    (e61 : w61 = w60 % B)
    (e62 : w62 = w60 / B + w41)
    (e63 : w63 = w62 % B)
    (e64 : w64 = w62 / B + w46)
    (e65 : w65 = w64 % B)
    (e66 : w66 = b2n (w65 == 4294967295))
    (e67 : w67 = w66 &&& b2n (w63 == 4294967295))
    (e68 : w68 = w67 &&& b2n (w61 == 4294967295))
    (e69 : w69 = b2n (decide (4294967294 < w59)))
    (e70 : w70 = w68 &&& w69)
    (e71 : w71 = w68 &&& b2n (w59 == 4294967294))
    (e72 : w72 = b2n (decide (3132021990 < w57)))
    (e73 : w73 = w70 ||| w71 &&& w72)
    (e74 : w74 = w71 &&& b2n (w57 == 3132021990))
    (e75 : w75 = b2n (decide (2940772411 < w55)))
    (e76 : w76 = w73 ||| w74 &&& w75)
    (e77 : w77 = w74 &&& b2n (w55 == 2940772411))
    (e78 : w78 = b2n (decide (3218235020 < w53)))
    (e79 : w79 = w76 ||| w77 &&& w78)
    (e80 : w80 = w77 &&& b2n (w53 == 3218235020))
    (e81 : w81 = b2n (decide (3493216577 ≤ w51)))
    (e82 : w82 = w79 ||| w80 &&& w81)
    (e83 : w83 = w64 / B % B + w82)
    (e84 : w84 = w51 + w83 * 801750719)
    (e85 : w85 = w84 % B)
    (e86 : w86 = w84 / B + (w53 + w83 * 1076732275))
    (e87 : w87 = w86 % B)
    (e88 : w88 = w86 / B + (w55 + w83 * 1354194884))
    (e89 : w89 = w88 % B)
    (e90 : w90 = w88 / B + (w57 + w83 * 1162945305))
    (e91 : w91 = w90 % B)
    (e92 : w92 = w90 / B + (w59 + w83))
    (e93 : w93 = w92 % B)
    (e94 : w94 = w92 / B + w61)
    (e95 : w95 = w94 % B)
    (e96 : w96 = w94 / B + w63)
    (e97 : w97 = w96 % B)
    (e98 : w98 = w96 / B + w65)
    (e99 : w99 = w98 % B) (hB : B = 2 ^ 32 := by rfl) :
    (⟨w85, w87, w89, w91, w93, w95, w97, w99⟩ : L8).Canon ∧
    (⟨w85, w87, w89, w91, w93, w95, w97, w99⟩ : L8).val + (val (2 ^ 32) [t8, t9, t10, t11, t12] + w48 + w83) * N =
      (⟨t0, t1, t2, t3, t4, t5, t6, t7⟩ : L8).val + 2 ^ 256 * val (2 ^ 32) [t8, t9, t10, t11, t12] := by
  subst hB
  -- first fold: t[8..12]·(2^256 − N) onto t[0..7], nine words out
  have A := carry_step e2 (acc e6 (acc e5 (acc₀ e4 e3))) <|
    carry_step e7 (acc e12 (acc e11 (acc e10 (acc₀ e9 e8)))) <|
    carry_step e13 (acc e19 (acc e18 (acc e17 (acc e16 (acc₀ e15 e14))))) <|
    carry_step e20 (acc e27 (acc e26 (acc e25 (acc e24 (acc e23 (acc₀ e22 e21)))))) <|
    carry_step e28 (acc e34 (acc e33 (acc e32 (acc e31 (acc₀ e30 e29))))) <|
    carry_step e35 (acc e40 (acc e39 (acc e38 (acc₀ e37 e36)))) <|
    carry_step e41 (acc e45 (acc e44 (acc₀ e43 e42))) <|
    carry_step e46 (acc₀ e48 e47) (rfl : val _ [w48] = _)
  -- `acc.n[0] = uint32(t0)` on a `uint64` term: the one equation that converts an input
  rw [Nat.mod_eq_of_lt bt0] at e0
  have hA : (⟨w2, w7, w13, w20, w28, w35, w41, w46⟩ : L8).val + w48 * 2 ^ 256 =
      (⟨t0, t1, t2, t3, t4, t5, t6, t7⟩ : L8).val + val (2 ^ 32) [t8, t9, t10, t11, t12] * (2 ^ 256 - N) := by
    rw [← L8.val_snoc]
    refine A.trans ?_
    rw [e1, e0, NC_words]; simp only [L8.val, val]; ring
  have hLo := L8.U32.val_lt (a := ⟨w2, w7, w13, w20, w28, w35, w41, w46⟩)
    ⟨digit_lt e2, digit_lt e7, digit_lt e13, digit_lt e20, digit_lt e28, digit_lt e35, digit_lt e41, digit_lt e46⟩
  have b48 : w48 < 2 ^ 32 := top_lt hA hb
  rw [Nat.mod_eq_of_lt b48] at e49
  subst w49
  -- second fold (the ninth word), `overflows`, conditional subtraction: `reduce256` twice
  obtain ⟨hFold, hWU⟩ := reduce256_chain (n := ⟨w2, w7, w13, w20, w28, w35, w41, w46⟩)
    e50 e51 e52 e53 e54 e55 e56 e57 e58 e59 e60 e61 e62 e63 e64 e65
  have hov := overflows_chain hWU e66 e67 e68 e69 e70 e71 e72 e73 e74 e75 e76 e77 e78 e79 e80 e81 e82
  have hS := fold9_lt_2N hLo b48
  rw [Nat.mod_eq_of_lt (Nat.lt_of_le_of_lt (carry_le_one hFold hS) (by decide))] at e83
  obtain ⟨hC, hRU⟩ := reduce256_chain (n := ⟨w51, w53, w55, w57, w59, w61, w63, w65⟩)
    e84 e85 e86 e87 e88 e89 e90 e91 e92 e93 e94 e95 e96 e97 e98 e99
  rw [e83] at hC
  have hCN := N_compl
  have h := cond_sub hCN hS hRU.val_lt hFold hov hC
  rw [← e83] at h
  refine ⟨⟨hRU, h.2⟩, ?_⟩
  -- the truncated subtraction becomes an atom `C`; `hCN : N + C = 2^256` is all `ring` needs of it
  generalize 2 ^ 256 - N = C at hA h hCN
  linear_combination h.1 + hA + (val (2 ^ 32) [t8, t9, t10, t11, t12] + w48) * hCN

/-- 16 words to 13: `t[8..15]·(2^256 − N)` added to `t[0..7]`.  The first two conjuncts are the
    hypotheses `bt0` and `hb` of `tail385` for the 13 words. -/
theorem fold512 {B t0 t1 t2 t3 t4 t5 t6 t7 t8 t9 t10 t11 t12 t13 t14 t15 x0 x1 x2 x3 x4 x5 x6 x7 x8 x9 x10 x11 x12 x13 x14 x15 x16 x17 x18 x19 x20 x21 x22 x23 x24 x25 x26 x27 x28 x29 x30 x31 x32 x33 x34 x35 x36 x37 x38 x39 x40 x41 x42 x43 x44 x45 x46 x47 x48 x49 x50 x51 x52 x53 x54 x55 x56 x57 x58 x59 x60 x61 x62 x63 x64 x65 x66 x67 x68 x69 x70 x71 x72 : Nat}
    (htl : (⟨t0, t1, t2, t3, t4, t5, t6, t7⟩ : L8).U32) (hth : (⟨t8, t9, t10, t11, t12, t13, t14, t15⟩ : L8).U32)
    (e0 : x0 = t0 % B)
    (e1 : x1 = x0 + t8 * 801750719)
    (e2 : x2 = x1 % B)
    (e3 : x3 = x1 / B)
    (e4 : x4 = x3 + t1)
    (e5 : x5 = x4 + t8 * 1076732275)
    (e6 : x6 = x5 + t9 * 801750719)
    (e7 : x7 = x6 % B)
    (e8 : x8 = x6 / B)
    (e9 : x9 = x8 + t2)
    (e10 : x10 = x9 + t8 * 1354194884)
    (e11 : x11 = x10 + t9 * 1076732275)
    (e12 : x12 = x11 + t10 * 801750719)
    (e13 : x13 = x12 % B)
    (e14 : x14 = x12 / B)
    (e15 : x15 = x14 + t3)
    (e16 : x16 = x15 + t8 * 1162945305)
    (e17 : x17 = x16 + t9 * 1354194884)
    (e18 : x18 = x17 + t10 * 1076732275)
    (e19 : x19 = x18 + t11 * 801750719)
    (e20 : x20 = x19 % B)
    (e21 : x21 = x19 / B)
    (e22 : x22 = x21 + t4)
    (e23 : x23 = x22 + t8)
    (e24 : x24 = x23 + t9 * 1162945305)
    (e25 : x25 = x24 + t10 * 1354194884)
    (e26 : x26 = x25 + t11 * 1076732275)
    (e27 : x27 = x26 + t12 * 801750719)
    (e28 : x28 = x27 % B)
    (e29 : x29 = x27 / B)
    (e30 : x30 = x29 + t5)
    (e31 : x31 = x30 + t9)
    (e32 : x32 = x31 + t10 * 1162945305)
    (e33 : x33 = x32 + t11 * 1354194884)
    (e34 : x34 = x33 + t12 * 1076732275)
    (e35 : x35 = x34 + t13 * 801750719)
    (e36 : x36 = x35 % B)
    (e37 : x37 = x35 / B)
    (e38 : x38 = x37 + t6)
    (e39 : x39 = x38 + t10)
    (e40 : x40 = x39 + t11 * 1162945305)
    (e41 : x41 = x40 + t12 * 1354194884)
    (e42 : x42 = x41 + t13 * 1076732275)
    (e43 : x43 = x42 + t14 * 801750719)
    (e44 : x44 = x43 % B)
    (e45 : x45 = x43 / B)
    (e46 : x46 = x45 + t7)
    (e47 : x47 = x46 + t11)
    (e48 : x48 = x47 + t12 * 1162945305)
    (e49 : x49 = x48 + t13 * 1354194884)
    (e50 : x50 = x49 + t14 * 1076732275)
    (e51 : x51 = x50 + t15 * 801750719)
    (e52 : x52 = x51 % B)
    (e53 : x53 = x51 / B)
    (e54 : x54 = x53 + t12)
    (e55 : x55 = x54 + t13 * 1162945305)
    (e56 : x56 = x55 + t14 * 1354194884)
    (e57 : x57 = x56 + t15 * 1076732275)
    (e58 : x58 = x57 % B)
    (e59 : x59 = x57 / B)
    (e60 : x60 = x59 + t13)
    (e61 : x61 = x60 + t14 * 1162945305)
    (e62 : x62 = x61 + t15 * 1354194884)
    (e63 : x63 = x62 % B)
    (e64 : x64 = x62 / B)
    (e65 : x65 = x64 + t14)
    (e66 : x66 = x65 + t15 * 1162945305)
    (e67 : x67 = x66 % B)
    (e68 : x68 = x66 / B)
    (e69 : x69 = x68 + t15)
    (e70 : x70 = x69 % B)
    (e71 : x71 = x69 / B)
    (e72 : x72 = x71 % B) (hB : B = 2 ^ 32 := by rfl) :
    x2 < 2 ^ 32 ∧
    (⟨x2, x7, x13, x20, x28, x36, x44, x52⟩ : L8).val + val (2 ^ 32) [x58, x63, x67, x70, x72] * (2 ^ 256 - N)
      < 2 ^ 256 * 2 ^ 32 ∧
    (⟨x2, x7, x13, x20, x28, x36, x44, x52⟩ : L8).val + 2 ^ 256 * val (2 ^ 32) [x58, x63, x67, x70, x72] =
      (⟨t0, t1, t2, t3, t4, t5, t6, t7⟩ : L8).val + (⟨t8, t9, t10, t11, t12, t13, t14, t15⟩ : L8).val * (2 ^ 256 - N) := by
  subst hB
  -- twelve columns carried; the last carry x71 is the thirteenth word
  have F := carry_step e2 (acc e6 (acc e5 (acc₀ e4 e3))) <|
    carry_step e7 (acc e12 (acc e11 (acc e10 (acc₀ e9 e8)))) <|
    carry_step e13 (acc e19 (acc e18 (acc e17 (acc e16 (acc₀ e15 e14))))) <|
    carry_step e20 (acc e27 (acc e26 (acc e25 (acc e24 (acc e23 (acc₀ e22 e21)))))) <|
    carry_step e28 (acc e35 (acc e34 (acc e33 (acc e32 (acc e31 (acc₀ e30 e29)))))) <|
    carry_step e36 (acc e43 (acc e42 (acc e41 (acc e40 (acc e39 (acc₀ e38 e37)))))) <|
    carry_step e44 (acc e51 (acc e50 (acc e49 (acc e48 (acc e47 (acc₀ e46 e45)))))) <|
    carry_step e52 (acc e57 (acc e56 (acc e55 (acc₀ e54 e53)))) <|
    carry_step e58 (acc e62 (acc e61 (acc₀ e60 e59))) <|
    carry_step e63 (acc e66 (acc₀ e65 e64)) <|
    carry_step e67 (acc₀ e69 e68) <|
    carry_last e70 e71
  rw [Nat.mod_eq_of_lt htl.1] at e0
  have hF : val (2 ^ 32) [x2, x7, x13, x20, x28, x36, x44, x52, x58, x63, x67, x70] + x71 * (2 ^ 32) ^ 12 =
      (⟨t0, t1, t2, t3, t4, t5, t6, t7⟩ : L8).val + (⟨t8, t9, t10, t11, t12, t13, t14, t15⟩ : L8).val * (2 ^ 256 - N) := by
    refine ((val_snoc [x2, x7, x13, x20, x28, x36, x44, x52, x58, x63, x67, x70] x71).symm.trans
      F).trans ?_
    rw [e1, e0, NC_words]; simp only [L8.val, val]; ring
  -- x71 is a word, so the conversion x72 keeps it
  rw [Nat.mod_eq_of_lt (top_lt hF (fold16_lt htl.val_lt hth.val_lt))] at e72
  subst e72
  -- the same value as eight low words and five high ones
  have hX : (⟨x2, x7, x13, x20, x28, x36, x44, x52⟩ : L8).val + 2 ^ 256 * val (2 ^ 32) [x58, x63, x67, x70, x72] =
      (⟨t0, t1, t2, t3, t4, t5, t6, t7⟩ : L8).val + (⟨t8, t9, t10, t11, t12, t13, t14, t15⟩ : L8).val * (2 ^ 256 - N) := by
    rw [← hF]; simp only [L8.val, val]; ring
  have hXl := L8.U32.val_lt (a := ⟨x2, x7, x13, x20, x28, x36, x44, x52⟩)
    ⟨digit_lt e2, digit_lt e7, digit_lt e13, digit_lt e20, digit_lt e28, digit_lt e36, digit_lt e44, digit_lt e52⟩
  exact ⟨digit_lt e2, hb_of_fold512 hXl htl.val_lt hth.val_lt hX, hX⟩

end Secp.Proofs.ScalarReduce
