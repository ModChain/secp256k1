import Secp.Model.Schnorr
import Secp.Model.PointSpec
import Secp.Proofs.Ecdsa
/-
  Proofs/Schnorr — lemmas behind Props/C11 (EC-Schnorr-DCRv0).  The point layer enters only
  through `PointSpec`; BLAKE-256 is a parameter `B` of which only the output length is used.
-/
namespace Secp.Proofs.Schnorr
open Secp.Spec Secp.Model

theorem commitScalar_32 (c : Bytes) (hc : c.length = 32) :
    commitScalar c = (if beNat c ≥ N then beNat c - N else beNat c, decide (beNat c ≥ N)) :=
  Buffers.scalarSetByteSlice_of_le c (Nat.le_of_eq hc)

theorem verify_tail (hp : PointSpec) (R : Jac) (hR : Jac.WF R) (r : Nat) :
    (if isInfJ R then some SchnorrErr.ErrSigRNotOnCurve else
      if (toAffineJ R).2.1 % 2 = 1 then some SchnorrErr.ErrSigRYIsOdd else
      if r ≠ (toAffineJ R).1 then some SchnorrErr.ErrUnequalRValues else none) = none ↔
    ∃ rx ry, Jac.toPt R = some (rx, ry) ∧ ry % 2 = 0 ∧ rx = r := by
  rcases PointOps.toPt_cases hp R hR with ⟨hi, ht⟩ | ⟨a, b, hi, ht, ha⟩
  · simp [hi, ht]
  · simp only [hi, ht, ha, Bool.false_eq_true, if_false, Option.ite_some_eq_none, Option.some.injEq, Prod.mk.injEq]
    constructor
    · rintro ⟨h1, h2, -⟩; exact ⟨a, b, ⟨rfl, rfl⟩, by omega, (not_not.1 h2).symm⟩
    · rintro ⟨rx, ry, ⟨rfl, rfl⟩, h1, h2⟩; exact ⟨by omega, not_not.2 h2.symm, trivial⟩

theorem signM_eq (hp : PointSpec) (B : Bytes → Bytes) (hB : ∀ x, (B x).length = 32)
    (d k : Nat) (m : Bytes) (hk : k < N) (rx ry : Nat) (hR : smul k G = some (rx, ry)) :
    schnorrSignM B d k m =
      (if beNat (B (be32 rx ++ m)) ≥ N then .error .ErrSchnorrHashValue
       else .ok (rx, nadd (nneg (nmul (beNat (B (be32 rx ++ m))) d)) (if ry % 2 = 1 then nneg k else k))) := by
  obtain ⟨w, t⟩ := hp.sbmul k hk
  rw [hR] at t
  have hA := hp.toAffine _ rx ry w t
  unfold schnorrSignM
  simp only [hA, commitScalar_32 _ (hB _)]
  by_cases he : beNat (B (be32 rx ++ m)) ≥ N <;>
    simp only [he, decide_true, decide_false, if_true, if_false, Bool.false_eq_true]

theorem parse_iff (b : Bytes) (r s : Nat) :
    schnorrParse b = .ok (r, s) ↔
      (b.length = 64 ∧ r = beNat (b.take 32) ∧ r < P ∧ s = beNat (b.drop 32) ∧ s < N) := by
  unfold schnorrParse
  by_cases hl : b.length = 64
  · rw [if_neg (by omega), if_neg (by omega),
      Buffers.scalarSetByteSlice_of_le (b.drop 32) (by rw [List.length_drop]; omega)]
    simp only [Except.ite_error_eq_ok, Except.ok.injEq, Prod.mk.injEq, decide_eq_true_eq]
    constructor
    · rintro ⟨h3, h4, rfl, rfl⟩
      rw [if_neg h4]
      exact ⟨hl, rfl, by omega, rfl, by omega⟩
    · rintro ⟨-, rfl, hr, rfl, hs⟩
      exact ⟨by omega, by omega, rfl, by rw [if_neg (by omega)]⟩
  · simp only [Except.ite_error_eq_ok]
    exact ⟨fun h => absurd (by omega) hl, fun h => absurd h.1 hl⟩

/-- acceptance read as an encoding statement; both round trips are its two directions -/
theorem parse_ok_iff (b : Bytes) (r s : Nat) :
    schnorrParse b = .ok (r, s) ↔ b = schnorrSerialize r s ∧ r < P ∧ s < N := by
  have key := fun (hr : r < P) (hs : s < N) =>
    Bytes.be32_append_eq_iff (t := b) (Nat.lt_trans hr Bytes.P_lt_pow) (Nat.lt_trans hs Bytes.N_lt_pow)
  rw [parse_iff, schnorrSerialize]
  constructor
  · rintro ⟨hl, hr', hr, hs', hs⟩
    exact ⟨((key hr hs).2 ⟨hl, hr'.symm, hs'.symm⟩).symm, hr, hs⟩
  · rintro ⟨hb, hr, hs⟩
    obtain ⟨hl, h1, h2⟩ := (key hr hs).1 hb.symm
    exact ⟨hl, h1.symm, hr, h2.symm, hs⟩

end Secp.Proofs.Schnorr
