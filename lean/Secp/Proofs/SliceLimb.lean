import Secp.Proofs.AbsSound
import Secp.Proofs.SliceSound
/-
  Proofs/SliceLimb — a LIMB-LEVEL meaning for the sliced abstract interpreter `FOp.absS`
  (Core/FSlice) on loop-free paths.

  `ExecS cs bools strict items (rl, rv) s'` is a paired execution of a marker-free sliced path on
  limb registers `rl` (every field operation is the regenerated kernel, `Model.stepL` / `condL`) and
  on value registers `rv` (`FOp.stepF` / `condF`).  What is sliced away is modelled by its contract:
  `havoc d m nrm` writes ANY limb value / field value pair realising `(m, nrm)`; `callC c args` writes
  any values realising the callee's postcondition.  With `strict = true` every `chk` and every callee
  precondition is additionally REQUIRED to hold on the limbs; with `strict = false` they are ignored.

  MAIN (`absS_limb_sound`): if `absS` accepts the path from σ then, from every limb register file
  realising σ, every lax execution is a strict execution and ends in a state realising the
  interpreter's result.
-/
namespace Secp.Proofs.SliceLimb
open Secp.FOp Secp.Model Secp.Limbs
open Secp.Proofs.AbsSound Secp.Proofs.SliceSound

/-- the limb value x meets the requirement r of a contract (`none`: no requirement) -/
def MeetsL (x : L10) : Option (Nat × Bool) → Prop
  | none => True
  | some (m, nrm) => x.MagLE m ∧ (nrm = true → x.Normalized)

/-- every argument register meets the callee's precondition at limb level (and the arities agree) -/
def PreL (rl : LRegs) : List Nat → List (Option (Nat × Bool)) → Prop
  | [], [] => True
  | a :: as, r :: rs => MeetsL (lget rl a) r ∧ PreL rl as rs
  | _, _ => False

/-- the effect of a contracted call: for each `(i, av)` of the postcondition, in order, register
    `args[i]` is replaced by a limb value / field value pair realising `av` -/
inductive PostHavoc (args : List Nat) : List (Nat × AV) → (LRegs × Regs) → (LRegs × Regs) → Prop
  | nil (s : LRegs × Regs) : PostHavoc args [] s s
  | cons {i : Nat} {av : AV} {rest : List (Nat × AV)} {rl : LRegs} {rv : Regs} {x : L10} {y : Nat}
      {s' : LRegs × Regs} :
      Realises x y av.1 av.2 →
      PostHavoc args rest (lset rl (args.getD i 0) x, rset rv (args.getD i 0) y) s' →
      PostHavoc args ((i, av) :: rest) (rl, rv) s'

/-- paired (limb, value) execution of a marker-free sliced path.  Loop markers and `.p (.call ..)`
    have no rule: paths containing them are not related to anything.  The strict premise of `chk` is
    `MeetsL (lget rl a) (some (m, nrm))` written out. -/
inductive ExecS (cs : List Contract) (bools : List Bool) (strict : Bool) :
    List SItem → (LRegs × Regs) → (LRegs × Regs) → Prop
  | nil (s : LRegs × Regs) : ExecS cs bools strict [] s s
  | op {o : FOp} {rest : List SItem} {rl : LRegs} {rv : Regs} {s' : LRegs × Regs} :
      ExecS cs bools strict rest (stepL rl o, stepF rv o) s' →
      ExecS cs bools strict (.p (.op o) :: rest) (rl, rv) s'
  | assume {c : FCond} {v : Bool} {rest : List SItem} {rl : LRegs} {rv : Regs} {s' : LRegs × Regs} :
      condL rl bools c = v → condF rv bools c = v →
      ExecS cs bools strict rest (rl, rv) s' →
      ExecS cs bools strict (.p (.assume c v) :: rest) (rl, rv) s'
  | chk {a m : Nat} {nrm : Bool} {rest : List SItem} {rl : LRegs} {rv : Regs} {s' : LRegs × Regs} :
      (strict = true → (lget rl a).MagLE m ∧ (nrm = true → (lget rl a).Normalized)) →
      ExecS cs bools strict rest (rl, rv) s' →
      ExecS cs bools strict (.chk a m nrm :: rest) (rl, rv) s'
  | havoc {d m : Nat} {nrm : Bool} {x : L10} {y : Nat} {rest : List SItem} {rl : LRegs} {rv : Regs}
      {s' : LRegs × Regs} :
      d < rl.length → Realises x y m nrm →
      ExecS cs bools strict rest (lset rl d x, rset rv d y) s' →
      ExecS cs bools strict (.havoc d m nrm :: rest) (rl, rv) s'
  | callC {c : Nat} {args : List Nat} {k : Contract} {rest : List SItem} {rl : LRegs} {rv : Regs}
      {s1 s' : LRegs × Regs} :
      cs[c]? = some k →
      (strict = true → PreL rl args k.pre) →
      PostHavoc args k.post (rl, rv) s1 →
      ExecS cs bools strict rest s1 s' →
      ExecS cs bools strict (.callC c args :: rest) (rl, rv) s'

def sitemRegs : SItem → List Nat
  | .p (.op o) => opRegs o
  | .p (.assume c _) => condRegs c
  | .p (.call _ args) => args
  | .chk a _ _ => [a]
  | .havoc d _ _ => [d]
  | .callC _ args => args
  | .loopBegin => []
  | .loopEnd => []
  | .loopBreak => []

def SInRange (n : Nat) (items : List SItem) : Prop := ∀ it ∈ items, ∀ i ∈ sitemRegs it, i < n

instance (n : Nat) (items : List SItem) : Decidable (SInRange n items) := by
  unfold SInRange; infer_instance

theorem SInRange.tail {n : Nat} {it : SItem} {rest : List SItem} (h : SInRange n (it :: rest)) :
    SInRange n rest :=
  fun x hx => h x (List.mem_cons_of_mem _ hx)

theorem meets_sound {σ : AState} {rl : LRegs} {rv : Regs} (hrel : Rel σ rl rv) (a : Nat)
    (r : Option (Nat × Bool)) (h : meets (aget σ a) r = true) : MeetsL (lget rl a) r := by
  cases r with
  | none => trivial
  | some q =>
    obtain ⟨m, nrm⟩ := q
    obtain ⟨mv, nv, ha, hm, hn⟩ := avLE_some (meets_eq_avLE .. ▸ h)
    obtain ⟨-, hM, hN, -, -⟩ := Rel.realises hrel ha
    exact ⟨hM.mono hm, fun e => hN (hn e)⟩

theorem preOK_sound {σ : AState} {rl : LRegs} {rv : Regs} (hrel : Rel σ rl rv) :
    ∀ (args : List Nat) (pre : List (Option (Nat × Bool))), preOK σ args pre = true → PreL rl args pre
  | [], [], _ => trivial
  | [], _ :: _, h | _ :: _, [], h => by simp [preOK] at h
  | a :: as, r :: rs, h => by
    simp only [preOK, Bool.and_eq_true] at h
    exact ⟨meets_sound hrel a r h.1, preOK_sound hrel as rs h.2⟩

theorem getD_mem_of_lt (args : List Nat) (i : Nat) (h : i < args.length) : args.getD i 0 ∈ args := by
  rw [List.getD_eq_getElem?_getD, List.getElem?_eq_getElem h]
  exact List.getElem_mem h

/-- Of `postInRange` only the index half is used (`args.getD i 0` is then one of `args`, hence a register); its
    magnitude half, like the `m ≤ maxMag` of `havoc`, only refuses a generated table that promises more than any
    `FieldVal` contract allows: `Realises` carries the uint32 bound itself. -/
theorem postHavoc_sound (args : List Nat) (post : List (Nat × AV)) (σ : AState) (s s' : LRegs × Regs)
    (hp : postInRange args.length post = true) (hargs : ∀ a ∈ args, a < s.1.length)
    (hrel : Rel σ s.1 s.2) (hex : PostHavoc args post s s') :
    Rel (applyPost σ args post) s'.1 s'.2 ∧ s'.1.length = s.1.length := by
  induction hex generalizing σ with
  | nil s => exact ⟨hrel, rfl⟩
  | @cons i av rest rl rv x y s' hx _ ih =>
    simp only [postInRange, List.all_cons, Bool.and_eq_true, decide_eq_true_eq] at hp
    obtain ⟨⟨hi, _⟩, hrest⟩ := hp
    have hd : args.getD i 0 < rl.length := hargs _ (getD_mem_of_lt args i hi)
    obtain ⟨m, nrm⟩ := av
    have hrel1 := rel_update hd hrel hx
    have hlen := length_lset rl (args.getD i 0) x
    have := ih (aset σ (args.getD i 0) (m, nrm)) (by simpa [postInRange] using hrest)
      (by intro a ha; show a < (lset rl (args.getD i 0) x).length; rw [hlen]; exact hargs a ha) hrel1
    exact ⟨this.1, this.2.trans hlen⟩

/-- `absS_limb_sound` with the start state as one variable, over which the induction on `ExecS` generalises -/
theorem absS_limb_sound' (cs : List Contract) (bools : List Bool) (items : List SItem) (σ σ' : AState)
    (s s' : LRegs × Regs)
    (hir : SInRange s.1.length items)
    (habs : absS cs items σ [] = some σ') (hrel : Rel σ s.1 s.2)
    (hex : ExecS cs bools false items s s') :
    ExecS cs bools true items s s' ∧ Rel σ' s'.1 s'.2 := by
  induction hex generalizing σ with
  | nil s => cases habs; exact ⟨ExecS.nil s, hrel⟩
  | @op o rest rl rv s' _ ih =>
    obtain ⟨σ1, hs, habs⟩ := absS_cons_some cs habs rfl
    have hrel1 := step_sound σ σ1 o rl rv (hir _ (List.mem_cons_self ..)) hs hrel
    obtain ⟨h1, h2⟩ := ih σ1 (length_stepL rl o ▸ hir.tail) habs hrel1
    exact ⟨ExecS.op h1, h2⟩
  | @assume c v rest rl rv s' hl hf _ ih =>
    obtain ⟨σ1, hs, habs⟩ := absS_cons_some cs habs rfl
    obtain ⟨-, ⟨⟩⟩ := Option.ite_none_right_eq_some.mp hs
    obtain ⟨h1, h2⟩ := ih σ hir.tail habs hrel
    exact ⟨ExecS.assume hl hf h1, h2⟩
  | @chk a m nrm rest rl rv s' _ _ ih =>
    obtain ⟨σ1, hs, habs⟩ := absS_cons_some cs habs rfl
    obtain ⟨hc, ⟨⟩⟩ := Option.ite_none_right_eq_some.mp hs
    obtain ⟨h1, h2⟩ := ih σ hir.tail habs hrel
    exact ⟨ExecS.chk (fun _ => meets_sound hrel a _ hc) h1, h2⟩
  | @havoc d m nrm x y rest rl rv s' hd hx _ ih =>
    obtain ⟨σ1, hs, habs⟩ := absS_cons_some cs habs rfl
    obtain ⟨-, ⟨⟩⟩ := Option.ite_none_right_eq_some.mp hs
    obtain ⟨h1, h2⟩ := ih _ (length_lset rl d x ▸ hir.tail) habs (rel_update hd hrel hx)
    exact ⟨ExecS.havoc hd hx h1, h2⟩
  | @callC c args k rest rl rv s1 s' hk _ hpost _ ih =>
    obtain ⟨σ1, hs, habs⟩ := absS_cons_some cs habs rfl
    simp only [stepS, hk] at hs
    obtain ⟨hc, ⟨⟩⟩ := Option.ite_none_right_eq_some.mp hs
    obtain ⟨hrel1, hlen⟩ := postHavoc_sound args k.post σ (rl, rv) s1 hc.2
      (hir _ (List.mem_cons_self ..)) hrel hpost
    obtain ⟨h1, h2⟩ := ih _ (hlen ▸ hir.tail) habs hrel1
    exact ⟨ExecS.callC hk (fun _ => preOK_sound hrel args k.pre hc.1) hpost h1, h2⟩

theorem absS_limb_sound (cs : List Contract) (bools : List Bool) (items : List SItem) (σ σ' : AState)
    (rl : LRegs) (rv : Regs) (s' : LRegs × Regs)
    (hir : SInRange rl.length items)
    (habs : absS cs items σ [] = some σ') (hrel : Rel σ rl rv)
    (hex : ExecS cs bools false items (rl, rv) s') :
    ExecS cs bools true items (rl, rv) s' ∧ Rel σ' s'.1 s'.2 :=
  absS_limb_sound' cs bools items σ σ' (rl, rv) s' hir habs hrel hex

/-- on a state realising σ with `condA σ c` the limb-level and the value-level predicate agree
    (`cond_sound`), so the limb-level premise of `ExecS.assume` follows from the value-level one: the
    Go code takes the branch the value-level model takes -/
theorem ExecS.assume_of_value {cs : List Contract} {bools : List Bool} {strict : Bool} {σ : AState}
    {c : FCond} {v : Bool} {rest : List SItem} {rl : LRegs} {rv : Regs} {s' : LRegs × Regs}
    (hrel : Rel σ rl rv) (hc : condA σ c = true) (hf : condF rv bools c = v)
    (h : ExecS cs bools strict rest (rl, rv) s') :
    ExecS cs bools strict (.p (.assume c v) :: rest) (rl, rv) s' :=
  ExecS.assume ((cond_sound σ c rl rv bools hc hrel).trans hf) hf h

end Secp.Proofs.SliceLimb
