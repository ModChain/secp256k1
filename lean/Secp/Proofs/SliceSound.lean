import Secp.Core.FSlice
import Secp.Proofs.FOpLemmas
/-
  Proofs/SliceSound — meta-theory of the sliced abstract interpreter `FOp.absS` (Core/FSlice):

  * `Cover` (the covering order on abstract states) is a preorder and is implied by the executable
    check `stLE` used at loop ends;
  * marker-free programs pass the loop-head stack along untouched (`absS_cons`; for whole programs
    `absS_flat_stack`) and compose (`absS_append`);
  * MONOTONICITY (`absS_mono`): a marker-free program accepted from σ2 is accepted from every state
    covered by σ2, with a covered result;
  * LOOP UNROLLING (`loop_unroll`): acceptance of `pre; loopBegin; body; loopEnd; post` for every
    body of a family implies acceptance of every concrete unrolling `pre; b1; …; bn; post`.

  `absS_append'` is the form of `absS_append` with the prefix run on an arbitrary stack (needed at a
  loop head).

  On marker-free items `absS` is the Kleisli fold of the one-item step `stepS` (`absS_cons`), and an
  operation's step is `valA` written to `dest` (FOpLemmas); the case analyses live there, the
  theorems about programs are inductions over the fold.

  Core-only (Secp.Core.FSlice and the Core-only FOpLemmas; no dependence on the limb level).
-/
namespace Secp.Proofs.SliceSound
open Secp.FOp

def flat : SItem → Bool
  | .loopBegin => false | .loopEnd => false | .loopBreak => false | _ => true

def Cover (σ1 σ2 : AState) : Prop := ∀ i, avLE (aget σ1 i) (aget σ2 i) = true

theorem avLE_none (x : Option AV) : avLE x none = true := by
  cases x <;> rfl

theorem avLE_mk {m1 m2 : Nat} {n1 n2 : Bool} (hm : m1 ≤ m2) (hn : n2 = true → n1 = true) :
    avLE (some (m1, n1)) (some (m2, n2)) = true := by
  cases n2 <;> cases n1 <;> simp_all [avLE]

theorem avLE_some {x : Option AV} {m2 : Nat} {n2 : Bool} (h : avLE x (some (m2, n2)) = true) :
    ∃ m1 n1, x = some (m1, n1) ∧ m1 ≤ m2 ∧ (n2 = true → n1 = true) := by
  cases x with
  | none => simp [avLE] at h
  | some v =>
    obtain ⟨m1, n1⟩ := v
    simp only [avLE, Bool.and_eq_true, decide_eq_true_eq, Bool.or_eq_true, Bool.not_eq_true'] at h
    refine ⟨m1, n1, rfl, h.1, ?_⟩
    intro e
    rcases h.2 with h2 | h2
    · rw [h2] at e; cases e
    · exact h2

theorem avLE_refl (x : Option AV) : avLE x x = true := by
  cases x with
  | none => rfl
  | some v =>
    obtain ⟨m, n⟩ := v
    exact avLE_mk (Nat.le_refl m) id

theorem avLE_trans {a b c : Option AV} (h1 : avLE a b = true) (h2 : avLE b c = true) :
    avLE a c = true := by
  cases c with
  | none => exact avLE_none a
  | some vc =>
    obtain ⟨m3, n3⟩ := vc
    obtain ⟨m2, n2, rfl, hm2, hn2⟩ := avLE_some h2
    obtain ⟨m1, n1, rfl, hm1, hn1⟩ := avLE_some h1
    exact avLE_mk (Nat.le_trans hm1 hm2) (fun e => hn1 (hn2 e))

theorem Cover.refl (σ : AState) : Cover σ σ := fun _ => avLE_refl _

theorem Cover.trans {a b c : AState} : Cover a b → Cover b c → Cover a c :=
  fun h1 h2 i => avLE_trans (h1 i) (h2 i)

theorem Cover.of_stLE {σ σh : AState} (h : stLE σ σh = true) : Cover σ σh := by
  intro i
  cases e : aget σh i with
  | none => exact avLE_none _
  | some v => exact e ▸ List.all_eq_true.mp h i (List.mem_range.mpr (aget_lt e))

theorem Cover.get {σ1 σ2 : AState} (hc : Cover σ1 σ2) {i m2 : Nat} {n2 : Bool}
    (h : aget σ2 i = some (m2, n2)) :
    ∃ m1 n1, aget σ1 i = some (m1, n1) ∧ m1 ≤ m2 ∧ (n2 = true → n1 = true) := by
  have := hc i
  rw [h] at this
  exact avLE_some this

theorem Cover.update {σ1 σ2 : AState} (hc : Cover σ1 σ2) (d : Nat) {v1 v2 : AV}
    (hv : avLE (some v1) (some v2) = true) : Cover (aset σ1 d v1) (aset σ2 d v2) := by
  intro i
  rw [aget_aset, aget_aset]
  by_cases h : i = d
  · rw [if_pos h, if_pos h]; exact hv
  · rw [if_neg h, if_neg h]; exact hc i

theorem Cover.update_same {σ1 σ2 : AState} (hc : Cover σ1 σ2) (d : Nat) (v : AV) :
    Cover (aset σ1 d v) (aset σ2 d v) :=
  hc.update d (avLE_refl _)

def ResLE (r1 r2 : Option AV) : Prop :=
  ∀ v2, r2 = some v2 → ∃ v1, r1 = some v1 ∧ avLE (some v1) (some v2) = true

theorem rdMag_mono {σ1 σ2 : AState} (hc : Cover σ1 σ2) (s : Nat) {f1 f2 : Nat → Option AV}
    (hf : ∀ m1 m2, m1 ≤ m2 → ResLE (f1 m1) (f2 m2)) : ResLE (rdMag σ1 s f1) (rdMag σ2 s f2) := by
  intro v2 h
  obtain ⟨m2, n2, hs, h⟩ := rdMag_some h
  obtain ⟨m1, n1, e1, hm, -⟩ := hc.get hs
  obtain ⟨v1, h1, hle⟩ := hf m1 m2 hm v2 h
  exact ⟨v1, by simp only [rdMag, e1, Option.bind_some, h1], hle⟩

theorem guard_mono {c1 c2 : Prop} [Decidable c1] [Decidable c2] {m1 m2 : Nat} {b : Bool}
    (hc : c2 → c1) (hm : m1 ≤ m2) :
    ResLE (if c1 then some (m1, b) else none) (if c2 then some (m2, b) else none) := by
  intro v2 h
  obtain ⟨h2, ⟨⟩⟩ := Option.ite_none_right_eq_some.mp h
  exact ⟨_, if_pos (hc h2), avLE_mk hm id⟩

/-- every guard of `valA` is antitone and every bound it returns monotone in the bounds read -/
theorem valA_mono {σ1 σ2 : AState} (hc : Cover σ1 σ2) : ∀ o, ResLE (valA σ1 o) (valA σ2 o)
  | .set _ s => fun (m2, n2) h => by
    obtain ⟨m1, n1, e1, hm, hn⟩ := hc.get h
    exact ⟨_, e1, avLE_mk hm hn⟩
  | .setInt _ _ => guard_mono id (Nat.le_refl _)
  | .zero _ => fun v2 h => ⟨v2, h, avLE_refl _⟩
  | .neg _ s _ => rdMag_mono hc s fun _ _ h =>
      guard_mono (And.imp_left (Nat.le_trans h)) (Nat.le_refl _)
  | .add d s => rdMag_mono hc d fun _ _ ha => rdMag_mono hc s fun _ _ hb =>
      guard_mono (Nat.le_trans (Nat.add_le_add ha hb)) (Nat.add_le_add ha hb)
  | .add2 _ a b => rdMag_mono hc a fun _ _ ha => rdMag_mono hc b fun _ _ hb =>
      guard_mono (Nat.le_trans (Nat.add_le_add ha hb)) (Nat.add_le_add ha hb)
  | .addInt d _ => rdMag_mono hc d fun _ _ h =>
      guard_mono (And.imp_left (Nat.le_trans (Nat.add_le_add_right h 1))) (Nat.add_le_add_right h 1)
  | .mulInt d v => rdMag_mono hc d fun _ _ h =>
      guard_mono (And.imp_left (Nat.le_trans (Nat.mul_le_mul_right v h))) (Nat.mul_le_mul_right v h)
  | .mul2 _ a b => rdMag_mono hc a fun _ _ ha => rdMag_mono hc b fun _ _ hb =>
      guard_mono (And.imp (Nat.le_trans ha) (Nat.le_trans hb)) (Nat.le_refl _)
  | .sq _ a => rdMag_mono hc a fun _ _ h => guard_mono (Nat.le_trans h) (Nat.le_refl _)
  | .norm d => rdMag_mono hc d fun _ _ h => guard_mono (Nat.le_trans h) (Nat.le_refl _)

theorem stepA_mono (o : FOp) (σ1 σ2 σ2' : AState) (hc : Cover σ1 σ2) (h : stepA σ2 o = some σ2') :
    ∃ σ1', stepA σ1 o = some σ1' ∧ Cover σ1' σ2' := by
  rw [stepA_eq] at h ⊢
  obtain ⟨v2, hv2, rfl⟩ := Option.map_eq_some_iff.mp h
  obtain ⟨v1, hv1, hle⟩ := valA_mono hc o v2 hv2
  exact ⟨_, by rw [hv1]; rfl, hc.update _ hle⟩

theorem condA_mono {σ1 σ2 : AState} (hc : Cover σ1 σ2) (c : FCond) (h : condA σ2 c = true) :
    condA σ1 c = true := by
  rw [AbsSound.condA_eq_all]
  refine List.all_eq_true.mpr fun i hi => ?_
  obtain ⟨m2, h2⟩ := AbsSound.condA_norm h i hi
  obtain ⟨m1, n1, e1, -, hn⟩ := hc.get h2
  rw [e1]
  exact hn rfl

theorem meets_eq_avLE (v : Option AV) : ∀ r, meets v r = avLE v r
  | none => by cases v <;> rfl
  | some (m, nrm) => by
    cases v with
    | none => rfl
    | some w => cases w; rfl

theorem meets_mono {x y : Option AV} (hxy : avLE x y = true) (r : Option (Nat × Bool))
    (h : meets y r = true) : meets x r = true :=
  meets_eq_avLE x r ▸ avLE_trans hxy (meets_eq_avLE y r ▸ h)

/-- the test of a `chk` item is the contract requirement `(m, nrm)` on its register -/
theorem meets_some_iff (ma m : Nat) (na nrm : Bool) :
    meets (some (ma, na)) (some (m, nrm)) = true ↔ ma ≤ m ∧ (nrm = true → na = true) := by
  cases nrm <;> simp [meets]

theorem preOK_mono {σ1 σ2 : AState} (hc : Cover σ1 σ2) (args : List Nat)
    (pre : List (Option (Nat × Bool))) (h : preOK σ2 args pre = true) : preOK σ1 args pre = true := by
  induction args generalizing pre with
  | nil =>
    cases pre with
    | nil => rfl
    | cons r rs => simp [preOK] at h
  | cons a as ih =>
    cases pre with
    | nil => simp [preOK] at h
    | cons r rs =>
      simp only [preOK, Bool.and_eq_true] at h ⊢
      exact ⟨meets_mono (hc a) r h.1, ih rs h.2⟩

theorem applyPost_cover {σ1 σ2 : AState} (hc : Cover σ1 σ2) (args : List Nat) (post : List (Nat × AV)) :
    Cover (applyPost σ1 args post) (applyPost σ2 args post) := by
  induction post generalizing σ1 σ2 with
  | nil => exact hc
  | cons pv rest ih =>
    obtain ⟨i, av⟩ := pv
    simp only [applyPost]
    exact ih (hc.update_same _ _)

def stepS (cs : List Contract) (σ : AState) : SItem → Option AState
  | .p (.op o) => stepA σ o
  | .p (.assume c _) => if condA σ c then some σ else none
  | .chk a m nrm => if meets (aget σ a) (some (m, nrm)) then some σ else none
  | .havoc d m nrm => if m ≤ maxMag then some (aset σ d (m, nrm)) else none
  | .callC c args => match cs[c]? with
      | none => none
      | some k =>
        if preOK σ args k.pre ∧ postInRange args.length k.post then some (applyPost σ args k.post)
        else none
  | _ => none

theorem absS_cons (cs) {it : SItem} (hit : flat it = true) (rest : List SItem) (σ : AState)
    (st : List AState) :
    absS cs (it :: rest) σ st = (stepS cs σ it).bind fun σ' => absS cs rest σ' st := by
  cases it with
  | p pit =>
    cases pit with
    | op o => simp only [absS, stepS]; cases stepA σ o <;> rfl
    | assume c v => simp only [absS, stepS]; split <;> rfl
    | call e a => rfl
  | chk a m nrm =>
    simp only [absS, stepS]
    cases aget σ a with
    | none => rfl
    | some v =>
      obtain ⟨ma, na⟩ := v
      simp only [← meets_some_iff]
      split <;> rfl
  | havoc d m nrm => simp only [absS, stepS]; split <;> rfl
  | callC c args =>
    simp only [absS, stepS]
    cases cs[c]? with
    | none => rfl
    | some k => simp only []; split <;> rfl
  | loopBegin | loopEnd | loopBreak => cases hit

theorem absS_cons_some (cs) {it : SItem} {rest : List SItem} {σ σ' : AState} {st : List AState}
    (h : absS cs (it :: rest) σ st = some σ') (hit : flat it = true) :
    ∃ σ1, stepS cs σ it = some σ1 ∧ absS cs rest σ1 st = some σ' :=
  Option.bind_eq_some_iff.mp (absS_cons cs hit rest σ st ▸ h)

theorem stepS_mono (cs) {it : SItem} {σ1 σ2 σ2' : AState} (hc : Cover σ1 σ2)
    (h : stepS cs σ2 it = some σ2') : ∃ σ1', stepS cs σ1 it = some σ1' ∧ Cover σ1' σ2' := by
  cases it with
  | p pit =>
    cases pit with
    | op o => exact stepA_mono o σ1 σ2 σ2' hc h
    | assume c v =>
      obtain ⟨hcd, ⟨⟩⟩ := Option.ite_none_right_eq_some.mp h
      exact ⟨σ1, if_pos (condA_mono hc c hcd), hc⟩
    | call e a => cases h
  | chk a m nrm =>
    obtain ⟨hq, ⟨⟩⟩ := Option.ite_none_right_eq_some.mp h
    exact ⟨σ1, if_pos (meets_mono (hc a) _ hq), hc⟩
  | havoc d m nrm =>
    obtain ⟨hm, ⟨⟩⟩ := Option.ite_none_right_eq_some.mp h
    exact ⟨_, if_pos hm, hc.update_same d _⟩
  | callC c args =>
    simp only [stepS] at h ⊢
    cases hk : cs[c]? with
    | none => rw [hk] at h; cases h
    | some k =>
      rw [hk] at h
      obtain ⟨hq, ⟨⟩⟩ := Option.ite_none_right_eq_some.mp h
      exact ⟨_, if_pos ⟨preOK_mono hc args k.pre hq.1, hq.2⟩, applyPost_cover hc args k.post⟩
  | loopBegin | loopEnd | loopBreak => cases h

theorem absS_flat_stack (cs) (items : List SItem) (hf : ∀ it ∈ items, flat it = true) (σ : AState)
    (st st' : List AState) : absS cs items σ st = absS cs items σ st' := by
  induction items generalizing σ with
  | nil => simp only [absS]
  | cons it rest ih =>
    obtain ⟨hit, hf⟩ := List.forall_mem_cons.1 hf
    rw [absS_cons cs hit, absS_cons cs hit]
    exact congrArg _ (funext (ih hf))

theorem absS_mono (cs) (items : List SItem) (hf : ∀ it ∈ items, flat it = true) (σ1 σ2 σ2' : AState)
    (hc : Cover σ1 σ2) (h : absS cs items σ2 [] = some σ2') :
    ∃ σ1', absS cs items σ1 [] = some σ1' ∧ Cover σ1' σ2' := by
  induction items generalizing σ1 σ2 with
  | nil =>
    simp only [absS] at h ⊢
    exact ⟨σ1, rfl, Option.some.inj h ▸ hc⟩
  | cons it rest ih =>
    obtain ⟨hit, hf⟩ := List.forall_mem_cons.1 hf
    obtain ⟨σ2m, hs, h⟩ := absS_cons_some cs h hit
    obtain ⟨σ1m, e1, hcm⟩ := stepS_mono cs hc hs
    rw [absS_cons cs hit, e1]
    exact ih hf σ1m σ2m hcm h

theorem absS_append' (cs) (p q : List SItem) (hp : ∀ it ∈ p, flat it = true) (σ : AState)
    (st st0 : List AState) :
    absS cs (p ++ q) σ st = (absS cs p σ st0).bind (fun σ' => absS cs q σ' st) := by
  induction p generalizing σ with
  | nil => simp only [List.nil_append, absS, Option.bind_some]
  | cons it rest ih =>
    obtain ⟨hit, hp⟩ := List.forall_mem_cons.1 hp
    rw [List.cons_append, absS_cons cs hit, absS_cons cs hit, Option.bind_assoc]
    exact congrArg _ (funext (ih hp))

theorem absS_append (cs) (p q : List SItem) (hp : ∀ it ∈ p, flat it = true) (σ : AState)
    (st : List AState) :
    absS cs (p ++ q) σ st = (absS cs p σ []).bind (fun σ' => absS cs q σ' st) :=
  absS_append' cs p q hp σ st []

theorem loop_decomp (cs) (pre b post : List SItem)
    (hpre : ∀ it ∈ pre, flat it = true) (hb : ∀ it ∈ b, flat it = true) (σ σf : AState)
    (h : absS cs (pre ++ [SItem.loopBegin] ++ b ++ [SItem.loopEnd] ++ post) σ [] = some σf) :
    ∃ σh σe, absS cs pre σ [] = some σh ∧ absS cs b σh [] = some σe ∧ stLE σe σh = true ∧
      absS cs post σh [] = some σf := by
  simp only [List.append_assoc] at h
  rw [absS_append cs pre _ hpre] at h
  obtain ⟨σh, h1, h⟩ := Option.bind_eq_some_iff.mp h
  simp only [List.cons_append, List.nil_append, absS] at h
  rw [absS_append' cs b _ hb σh [σh] []] at h
  obtain ⟨σe, h2, h⟩ := Option.bind_eq_some_iff.mp h
  simp only [absS] at h
  obtain ⟨hle, h⟩ := Option.ite_none_right_eq_some.mp h
  exact ⟨σh, σe, h1, h2, hle, h⟩

theorem iterate_cover (cs) (σh : AState) (trace : List (List SItem))
    (hb : ∀ b ∈ trace, (∀ it ∈ b, flat it = true) ∧
      ∃ σe, absS cs b σh [] = some σe ∧ Cover σe σh)
    (σx : AState) (hx : Cover σx σh) :
    ∃ σ', absS cs trace.flatten σx [] = some σ' ∧ Cover σ' σh := by
  induction trace generalizing σx with
  | nil => exact ⟨σx, by simp only [List.flatten_nil, absS], hx⟩
  | cons b t ih =>
    obtain ⟨hfb, σe, hbe, hce⟩ := hb b (List.mem_cons_self ..)
    obtain ⟨σy, hy, hcy⟩ := absS_mono cs b hfb σx σh σe hx hbe
    obtain ⟨σ', h', hc'⟩ := ih (fun b' hb' => hb b' (List.mem_cons_of_mem _ hb')) σy
      (hcy.trans hce)
    refine ⟨σ', ?_, hc'⟩
    rw [List.flatten_cons, absS_append cs b _ hfb, hy]
    exact h'

theorem loop_unroll (cs) (pre post : List SItem) (bodies : List (List SItem))
    (hpre : ∀ it ∈ pre, flat it = true) (hpost : ∀ it ∈ post, flat it = true)
    (hb : ∀ b ∈ bodies, ∀ it ∈ b, flat it = true)
    (σ σf : AState)
    (hne : bodies ≠ [])
    (hacc : ∀ b ∈ bodies, absS cs (pre ++ [SItem.loopBegin] ++ b ++ [SItem.loopEnd] ++ post) σ [] = some σf)
    (trace : List (List SItem)) (htr : ∀ b ∈ trace, b ∈ bodies) :
    ∃ σ', absS cs (pre ++ trace.flatten ++ post) σ [] = some σ' ∧ Cover σ' σf := by
  obtain ⟨b0, hb0⟩ := List.exists_mem_of_ne_nil bodies hne
  obtain ⟨σh, -, hpre0, -, -, hpost0⟩ :=
    loop_decomp cs pre b0 post hpre (hb b0 hb0) σ σf (hacc b0 hb0)
  have hbodies : ∀ b ∈ trace, (∀ it ∈ b, flat it = true) ∧
      ∃ σe, absS cs b σh [] = some σe ∧ Cover σe σh := by
    intro b hbt
    have hbb := htr b hbt
    obtain ⟨_, σe, hp', hbe, hle, -⟩ := loop_decomp cs pre b post hpre (hb b hbb) σ σf (hacc b hbb)
    cases hpre0.symm.trans hp'
    exact ⟨hb b hbb, σe, hbe, Cover.of_stLE hle⟩
  obtain ⟨σm, hm, hcm⟩ := iterate_cover cs σh trace hbodies σh (Cover.refl σh)
  obtain ⟨σ', h', hc'⟩ := absS_mono cs post hpost σm σh σf hcm hpost0
  have hft : ∀ it ∈ trace.flatten, flat it = true := by
    intro it hit
    obtain ⟨b, hbt, hib⟩ := List.mem_flatten.mp hit
    exact hb b (htr b hbt) it hib
  refine ⟨σ', ?_, hc'⟩
  rw [List.append_assoc, absS_append cs pre _ hpre, hpre0, Option.bind_some,
    absS_append cs _ post hft, hm, Option.bind_some]
  exact h'

end Secp.Proofs.SliceSound
