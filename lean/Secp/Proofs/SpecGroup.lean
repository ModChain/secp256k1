import Secp.Spec.Curve
import Secp.Proofs.FieldBridge
import Mathlib.AlgebraicGeometry.EllipticCurve.Affine.Point
import Mathlib.Tactic.FieldSimp
import Mathlib.Tactic.Ring
import Mathlib.Tactic.LinearCombination
/-
  Proofs/SpecGroup — the executable affine group law of `Spec/Curve` computes in
  Mathlib's elliptic-curve group `WeierstrassCurve.Affine.Point` of
  y² = x³ + 7 over `ZMod P`.  That `G` has order `N` is in `SpecOrder`.
-/

namespace Secp.Proofs.SpecGroup
open Secp.Spec WeierstrassCurve.Affine

/-- the curve y² = x³ + 7 over ZMod P -/
noncomputable def E : WeierstrassCurve.Affine (ZMod Secp.Spec.P) := ⟨0, 0, 0, 0, 7⟩

@[simp] theorem E_a₁ : E.a₁ = 0 := rfl
@[simp] theorem E_a₂ : E.a₂ = 0 := rfl
@[simp] theorem E_a₃ : E.a₃ = 0 := rfl
@[simp] theorem E_a₄ : E.a₄ = 0 := rfl
@[simp] theorem E_a₆ : E.a₆ = 7 := rfl

/-- well-formed spec point: infinity, or canonical coordinates on the curve -/
def Valid : Pt → Prop
  | none => True
  | some (x, y) => x < P ∧ y < P ∧ (y * y) % P = (x * x * x + 7) % P

open Classical in
/-- the Mathlib point denoted by a spec point (0 for ill-formed input) -/
noncomputable def toE : Pt → E.Point
  | none => 0
  | some (x, y) =>
    if h : E.Nonsingular (x : ZMod Secp.Spec.P) (y : ZMod Secp.Spec.P) then .some _ _ h else 0

theorem two_ne_zero_P : (2 : ZMod P) ≠ 0 := by
  have h : ((2 : ℕ) : ZMod P) ≠ 0 :=
    fun h => absurd ((cast_eq_zero_iff_of_lt two_lt_P).1 h) (by decide)
  simpa using h

theorem equation_iff_E (x y : ZMod P) : E.Equation x y ↔ y ^ 2 = x ^ 3 + 7 := by
  rw [equation_iff]
  simp only [E_a₁, E_a₂, E_a₃, E_a₄, E_a₆, zero_mul, add_zero]

theorem y_ne_zero {x y : ZMod P} (h : y ^ 2 = x ^ 3 + 7) : y ≠ 0 := by
  rintro rfl
  exact neg7_not_cube ⟨x, by linear_combination -h⟩

theorem y_ne_neg {x y : ZMod P} (h : y ^ 2 = x ^ 3 + 7) : y ≠ -y := by
  intro h2
  have h3 : 2 * y = 0 := by linear_combination h2
  rcases mul_eq_zero.1 h3 with h4 | h4
  · exact two_ne_zero_P h4
  · exact y_ne_zero h h4

theorem nonsingular_iff_E (x y : ZMod P) : E.Nonsingular x y ↔ y ^ 2 = x ^ 3 + 7 := by
  rw [nonsingular_iff, equation_iff_E]
  refine ⟨And.left, fun h => ⟨h, Or.inr ?_⟩⟩
  simp only [E_a₁, E_a₃, zero_mul, sub_zero]
  exact y_ne_neg h

theorem negY_E (x y : ZMod P) : E.negY x y = -y := by
  simp only [negY, E_a₁, E_a₃, zero_mul, sub_zero]

/-- no point is its own negative: doubling always takes the tangent -/
theorem y_ne_negY {x y : ZMod P} (h : E.Nonsingular x y) : y ≠ E.negY x y := by
  rw [negY_E]
  exact y_ne_neg ((nonsingular_iff_E _ _).1 h)

theorem curve_cast (x y : Nat) :
    (y * y) % P = (x * x * x + 7) % P ↔
      (y : ZMod P) ^ 2 = (x : ZMod P) ^ 3 + 7 := by
  rw [mod_P_eq_iff]
  push_cast
  constructor <;> intro h <;> linear_combination h

theorem valid_some_iff (x y : Nat) :
    Valid (some (x, y)) ↔ x < P ∧ y < P ∧ (y * y) % P = (x * x * x + 7) % P := Iff.rfl

theorem Valid.nonsingular {x y : Nat} (h : Valid (some (x, y))) :
    E.Nonsingular (x : ZMod P) (y : ZMod P) :=
  (nonsingular_iff_E _ _).2 ((curve_cast x y).1 h.2.2)

theorem toE_none : toE none = 0 := rfl

theorem toE_some {x y : Nat} (h : E.Nonsingular (x : ZMod P) (y : ZMod P)) :
    toE (some (x, y)) = .some _ _ h := by
  simp only [toE, dif_pos h]

theorem some_of_casts {x y : Nat} {X Y : ZMod P} (hx : x < P) (hy : y < P)
    (hX : (x : ZMod P) = X) (hY : (y : ZMod P) = Y) (h : E.Nonsingular X Y) :
    Valid (some (x, y)) ∧ toE (some (x, y)) = .some X Y h := by
  subst hX hY
  exact ⟨⟨hx, hy, (curve_cast x y).2 ((nonsingular_iff_E _ _).1 h)⟩, toE_some h⟩

theorem toE_injective_on_valid {p q : Pt} (hp : Valid p) (hq : Valid q) (h : toE p = toE q) :
    p = q := by
  rcases p with _ | ⟨x1, y1⟩ <;> rcases q with _ | ⟨x2, y2⟩
  · rfl
  · rw [toE_none, toE_some hq.nonsingular] at h
    exact absurd h.symm (Point.some_ne_zero _)
  · rw [toE_none, toE_some hp.nonsingular] at h
    exact absurd h (Point.some_ne_zero _)
  · rw [toE_some hp.nonsingular, toE_some hq.nonsingular, Point.some.injEq] at h
    rw [eq_of_cast_eq_P hp.1 hq.1 h.1, eq_of_cast_eq_P hp.2.1 hq.2.1 h.2]

theorem valid_G : Valid G := by
  show Gx < P ∧ Gy < P ∧ (Gy * Gy) % P = (Gx * Gx * Gx + 7) % P
  decide +kernel

theorem neg_spec {p : Pt} (hp : Valid p) : Valid (Pt.neg p) ∧ toE (Pt.neg p) = - toE p := by
  rcases p with _ | ⟨x, y⟩
  · exact ⟨trivial, by simp [Pt.neg, toE_none]⟩
  · have h := hp.nonsingular
    have h' : E.Nonsingular (x : ZMod P) (E.negY x y) := (nonsingular_neg _ _).2 h
    have := some_of_casts hp.1 (fneg_lt y) rfl (by rw [fneg_cast, negY_E]) h'
    refine ⟨this.1, ?_⟩
    show toE (some (x, fneg y)) = _
    rw [this.2, toE_some h, Point.neg_some]

theorem valid_neg {p : Pt} (hp : Valid p) : Valid (Pt.neg p) := (neg_spec hp).1
theorem toE_neg {p : Pt} (hp : Valid p) : toE (Pt.neg p) = - toE p := (neg_spec hp).2

/-! The two definitions on each form of input.  The chord and the tangent formula are given by their
coordinates in `ZMod P` (`chX … tgY`), as existence (`add_some_ex`, `dbl_some_ex`) and as a
characterisation (`add_some_iff`, `dbl_some_iff`): clients compare coordinates in the field and never
see the `Nat` terms of the definitions. -/

theorem Valid.y_mod_ne {x y : Nat} (hp : Valid (some (x, y))) : y % P ≠ 0 :=
  fun h0 => y_ne_zero ((curve_cast x y).1 hp.2.2) ((cast_eq_zero_iff_mod y).2 h0)

theorem add_self (x y : Nat) : Pt.add (some (x, y)) (some (x, y)) = Pt.dbl (some (x, y)) := by
  simp only [Pt.add, if_true]

theorem add_some_opp (x y1 y2 : Nat) (hy : y1 % P ≠ y2 % P) :
    Pt.add (some (x, y1)) (some (x, y2)) = none := by
  simp only [Pt.add, if_true, if_neg hy]

def chX (x1 y1 x2 y2 : ZMod P) : ZMod P :=
  ((y2 - y1) * (x2 - x1)⁻¹) ^ 2 - x1 - x2
def chY (x1 y1 x2 y2 : ZMod P) : ZMod P :=
  ((y2 - y1) * (x2 - x1)⁻¹) * (x1 - chX x1 y1 x2 y2) - y1
def tgX (x y : ZMod P) : ZMod P := ((3 * x ^ 2) * (2 * y)⁻¹) ^ 2 - 2 * x
def tgY (x y : ZMod P) : ZMod P :=
  ((3 * x ^ 2) * (2 * y)⁻¹) * (x - tgX x y) - y

theorem add_some_ex {x1 y1 x2 y2 : Nat} (hx : x1 % P ≠ x2 % P) :
    ∃ x3 y3, Pt.add (some (x1, y1)) (some (x2, y2)) = some (x3, y3) ∧ x3 < P ∧ y3 < P ∧
      (x3 : ZMod P) = chX x1 y1 x2 y2 ∧ (y3 : ZMod P) = chY x1 y1 x2 y2 := by
  refine ⟨_, _, if_neg hx, fsub_lt _ _, fsub_lt _ _, ?_, ?_⟩ <;>
    simp only [chY, chX, fsub_cast, fsq_cast_pow, fmul_cast, finv_cast]

theorem dbl_some_ex {x y : Nat} (hy : y % P ≠ 0) :
    ∃ x3 y3, Pt.dbl (some (x, y)) = some (x3, y3) ∧ x3 < P ∧ y3 < P ∧
      (x3 : ZMod P) = tgX x y ∧ (y3 : ZMod P) = tgY x y := by
  refine ⟨_, _, if_neg hy, fsub_lt _ _, fsub_lt _ _, ?_, ?_⟩ <;>
    simp only [tgY, tgX, fsub_cast, fsq_cast_pow, fmul_cast, finv_cast, Nat.cast_ofNat]

theorem some_iff_of_ex {p : Pt} {a b : ZMod P}
    (h : ∃ x y, p = some (x, y) ∧ x < P ∧ y < P ∧ (x : ZMod P) = a ∧ (y : ZMod P) = b)
    {x3 y3 : Nat} :
    p = some (x3, y3) ↔ x3 < P ∧ y3 < P ∧ (x3 : ZMod P) = a ∧ (y3 : ZMod P) = b := by
  obtain ⟨x, y, rfl, hx, hy, rfl, rfl⟩ := h
  rw [Option.some.injEq, Prod.mk.injEq]
  exact ⟨by rintro ⟨rfl, rfl⟩; exact ⟨hx, hy, rfl, rfl⟩,
    fun ⟨h3x, h3y, eX, eY⟩ => ⟨eq_of_cast_eq_P hx h3x eX.symm, eq_of_cast_eq_P hy h3y eY.symm⟩⟩

theorem add_some_iff {x1 y1 x2 y2 x3 y3 : Nat} (hx : x1 % P ≠ x2 % P) :
    Pt.add (some (x1, y1)) (some (x2, y2)) = some (x3, y3) ↔
      x3 < P ∧ y3 < P ∧ (x3 : ZMod P) = chX x1 y1 x2 y2 ∧
        (y3 : ZMod P) = chY x1 y1 x2 y2 :=
  some_iff_of_ex (add_some_ex hx)

theorem dbl_some_iff {x y x3 y3 : Nat} (hy : y % P ≠ 0) :
    Pt.dbl (some (x, y)) = some (x3, y3) ↔
      x3 < P ∧ y3 < P ∧ (x3 : ZMod P) = tgX x y ∧ (y3 : ZMod P) = tgY x y :=
  some_iff_of_ex (dbl_some_ex hy)

theorem add_cases {x1 y1 x2 y2 : Nat} (hp : Valid (some (x1, y1))) (hq : Valid (some (x2, y2))) :
    (x1 = x2 ∧ y1 = y2 ∧ Pt.add (some (x1, y1)) (some (x2, y2)) = Pt.dbl (some (x1, y1))) ∨
    (x1 = x2 ∧ y1 % P ≠ y2 % P ∧ (y1 : ZMod P) ≠ y2 ∧
      Pt.add (some (x1, y1)) (some (x2, y2)) = none) ∨
    (x1 % P ≠ x2 % P ∧ (x1 : ZMod P) ≠ x2 ∧ ∃ x3 y3,
      Pt.add (some (x1, y1)) (some (x2, y2)) = some (x3, y3) ∧ x3 < P ∧ y3 < P ∧
      (x3 : ZMod P) = chX x1 y1 x2 y2 ∧ (y3 : ZMod P) = chY x1 y1 x2 y2) := by
  by_cases hx : x1 % P = x2 % P
  · obtain rfl : x1 = x2 := by rwa [Nat.mod_eq_of_lt hp.1, Nat.mod_eq_of_lt hq.1] at hx
    by_cases hy : y1 % P = y2 % P
    · obtain rfl : y1 = y2 := by rwa [Nat.mod_eq_of_lt hp.2.1, Nat.mod_eq_of_lt hq.2.1] at hy
      exact .inl ⟨rfl, rfl, add_self x1 y1⟩
    · exact .inr (.inl ⟨rfl, hy, fun h => hy ((mod_P_eq_iff _ _).2 h), add_some_opp x1 y1 y2 hy⟩)
  · exact .inr (.inr ⟨hx, fun h => hx ((mod_P_eq_iff _ _).2 h), add_some_ex hx⟩)

theorem dbl_spec {p : Pt} (hp : Valid p) :
    Valid (Pt.dbl p) ∧ toE (Pt.dbl p) = toE p + toE p := by
  rcases p with _ | ⟨x, y⟩
  · exact ⟨trivial, by simp [Pt.dbl, toE_none]⟩
  · have h := hp.nonsingular
    have hne := y_ne_negY h
    have hy0 := y_ne_zero ((nonsingular_iff_E _ _).1 h)
    have h20 := two_ne_zero_P
    obtain ⟨x3, y3, e, h3x, h3y, eX, eY⟩ := dbl_some_ex (x := x) hp.y_mod_ne
    rw [e, toE_some h, Point.add_self_of_Y_ne hne]
    refine some_of_casts h3x h3y ?_ ?_ (nonsingular_add h h fun hxy => hne hxy.2) <;>
    · rw [slope_of_Y_ne rfl hne]
      simp only [eX, eY, tgY, tgX, addY, negAddY, addX, negY_E, E_a₁, E_a₂, E_a₄]
      rw [sub_neg_eq_add, ← two_mul]
      field_simp
      ring

theorem valid_dbl {p : Pt} (hp : Valid p) : Valid (Pt.dbl p) := (dbl_spec hp).1
theorem toE_dbl {p : Pt} (hp : Valid p) : toE (Pt.dbl p) = toE p + toE p := (dbl_spec hp).2

theorem add_self_eq_zero {Q : E.Point} (h : Q + Q = 0) : Q = 0 := by
  rcases Q with _ | ⟨x, y, hn⟩
  · rfl
  · rw [Point.add_self_of_Y_ne (y_ne_negY hn)] at h
    exact absurd h (Point.some_ne_zero _)

theorem no_two_torsion {p : Pt} (hp : Valid p) (h : toE p + toE p = 0) : p = none :=
  toE_injective_on_valid hp (q := none) trivial (add_self_eq_zero h)

theorem add_spec {p q : Pt} (hp : Valid p) (hq : Valid q) :
    Valid (Pt.add p q) ∧ toE (Pt.add p q) = toE p + toE q := by
  rcases p with _ | ⟨x1, y1⟩
  · refine ⟨by simpa [Pt.add] using hq, ?_⟩
    simp [Pt.add, toE_none]
  rcases q with _ | ⟨x2, y2⟩
  · refine ⟨by simpa [Pt.add] using hp, ?_⟩
    simp [Pt.add, toE_none]
  have h1 := hp.nonsingular
  have h2 := hq.nonsingular
  rcases add_cases hp hq with ⟨rfl, rfl, e⟩ | ⟨rfl, -, hyz, e⟩ | ⟨-, hxz, x3, y3, e, h3x, h3y, eX, eY⟩ <;>
    rw [e]
  · exact dbl_spec hp
  · refine ⟨trivial, ?_⟩
    rw [toE_none, toE_some h1, toE_some h2,
      Point.add_of_Y_eq rfl ((Y_eq_of_X_eq h1.1 h2.1 rfl).resolve_left hyz)]
  · have hd : (x1 : ZMod P) - x2 ≠ 0 := sub_ne_zero.2 hxz
    have hd' : (x2 : ZMod P) - x1 ≠ 0 := sub_ne_zero.2 (Ne.symm hxz)
    rw [toE_some h1, toE_some h2, Point.add_of_X_ne hxz]
    refine some_of_casts h3x h3y ?_ ?_ (nonsingular_add h1 h2 fun hxy => hxz hxy.1) <;>
    · rw [slope_of_X_ne hxz]
      simp only [eX, eY, chY, chX, addY, negAddY, addX, negY_E, E_a₁, E_a₂]
      field_simp
      ring

theorem valid_add {p q : Pt} (hp : Valid p) (hq : Valid q) : Valid (Pt.add p q) :=
  (add_spec hp hq).1
theorem toE_add {p q : Pt} (hp : Valid p) (hq : Valid q) : toE (Pt.add p q) = toE p + toE q :=
  (add_spec hp hq).2

theorem valid_smulAux {p : Pt} (hp : Valid p) : ∀ f k, Valid (smulAux p f k) := by
  intro f
  induction f with
  | zero => intro k; trivial
  | succ f ih =>
    intro k
    unfold smulAux
    split_ifs
    · trivial
    · exact valid_add (valid_dbl (ih _)) hp
    · exact valid_dbl (ih _)

theorem toE_smulAux {p : Pt} (hp : Valid p) :
    ∀ (f k : Nat), k < 2 ^ f → toE (smulAux p f k) = k • toE p := by
  intro f
  induction f with
  | zero =>
    intro k hk
    obtain rfl : k = 0 := by simpa using hk
    simp [smulAux, toE_none]
  | succ f ih =>
    intro k hk
    have hde : toE (Pt.dbl (smulAux p f (k / 2))) = (2 * (k / 2)) • toE p := by
      rw [toE_dbl (valid_smulAux hp _ _), ih (k / 2) (by rw [pow_succ] at hk; omega), ← add_nsmul,
        two_mul]
    unfold smulAux
    split_ifs with hk0 ho
    · rw [hk0, toE_none, zero_nsmul]
    · rw [toE_add (valid_dbl (valid_smulAux hp _ _)) hp, hde, ← succ_nsmul]
      congr 1
      omega
    · rw [hde]
      congr 1
      omega

theorem valid_smul (k : Nat) {p : Pt} (hp : Valid p) : Valid (smul k p) :=
  valid_smulAux hp _ k

theorem toE_smul (k : Nat) {p : Pt} (hp : Valid p) : toE (smul k p) = k • toE p :=
  toE_smulAux hp _ k Nat.lt_log2_self

-- primed: Mathlib's `smul_one`, `smul_smul` for `Spec.smul` on valid points (as `ScalarMultJac.smul_zero'`)
theorem smul_one' {p : Pt} (hp : Valid p) : smul 1 p = p :=
  toE_injective_on_valid (valid_smul _ hp) hp (by rw [toE_smul _ hp, one_nsmul])

theorem smul_smul' {p : Pt} (hp : Valid p) (a b : Nat) : smul a (smul b p) = smul (a * b) p :=
  toE_injective_on_valid (valid_smul _ (valid_smul _ hp)) (valid_smul _ hp)
    (by rw [toE_smul _ (valid_smul _ hp), toE_smul _ hp, toE_smul _ hp, mul_nsmul'])

/-! `dblW`, `addW`, `smulAuxW` (W: with the inverse given) are `Spec.Pt.dbl`, `Pt.add`, `smulAux` with `inv`
in place of `finv`, term for term: `dblW_finv` is `rfl`, so the bodies change only together with the
specification's.  With `inv := finvE` the kernel evaluates a long scalar multiplication (`smul_N_G`,
`endo_G`) through `smul_eq_fast`. -/

def dblW (inv : Nat → Nat) : Pt → Pt
  | none => none
  | some (x, y) =>
    if y % P = 0 then none else
    let l := fmul (fmul 3 (fsq x)) (inv (fmul 2 y))
    let x3 := fsub (fsq l) (fmul 2 x)
    some (x3, fsub (fmul l (fsub x x3)) y)

def addW (inv : Nat → Nat) : Pt → Pt → Pt
  | none, q => q
  | p, none => p
  | some (x1, y1), some (x2, y2) =>
    if x1 % P = x2 % P then
      if y1 % P = y2 % P then dblW inv (some (x1, y1)) else none
    else
      let l := fmul (fsub y2 y1) (inv (fsub x2 x1))
      let x3 := fsub (fsub (fsq l) x1) x2
      some (x3, fsub (fmul l (fsub x1 x3)) y1)

def smulAuxW (inv : Nat → Nat) (p : Pt) : Nat → Nat → Pt
  | 0, _ => none
  | f+1, k =>
    if k = 0 then none else
    let h := dblW inv (smulAuxW inv p f (k / 2))
    if k % 2 = 1 then addW inv h p else h

theorem dblW_finv : dblW finv = Pt.dbl := by
  funext p; rcases p with _ | ⟨x, y⟩ <;> rfl

theorem addW_finv : addW finv = Pt.add := by
  funext p q
  rcases p with _ | ⟨x1, y1⟩ <;> rcases q with _ | ⟨x2, y2⟩ <;> simp only [addW, Pt.add, dblW_finv]

theorem smul_eq_fast (k : Nat) (p : Pt) : smul k p = smulAuxW finvE p (k.log2 + 1) k := by
  rw [show finvE = finv from funext finvE_eq, smul]
  generalize k.log2 + 1 = f
  induction f generalizing k with
  | zero => rfl
  | succ f ih => simp only [smulAux, smulAuxW, ih, dblW_finv, addW_finv]

end Secp.Proofs.SpecGroup
