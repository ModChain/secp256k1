import Secp.Proofs.SpecGroup
import Mathlib.GroupTheory.OrderOfElement
/-
  Proofs/SpecOrder — `G` has order `N` in the group of `SpecGroup`: one kernel evaluation of
  `smul N G` (with the Euclid inverse, `smul_eq_fast`), and what follows from it.  Apart from the
  group law so that what needs only the law does not wait for the evaluation.
-/

-- facts of the group of `SpecGroup`, cited under its namespace
namespace Secp.Proofs.SpecGroup
open Secp.Spec WeierstrassCurve.Affine

theorem smul_N_G : smul N G = none := by rw [smul_eq_fast]; decide +kernel

theorem toE_G_ne_zero : toE G ≠ 0 := by
  have h : toE G = .some _ _ valid_G.nonsingular := toE_some valid_G.nonsingular
  rw [h]
  exact Point.some_ne_zero _

theorem order_G : addOrderOf (toE G) = N := by
  refine addOrderOf_eq_prime ?_ toE_G_ne_zero
  rw [← toE_smul N valid_G, smul_N_G, toE_none]

theorem smul_mod_N_G (k : Nat) : smul (k % N) G = smul k G := by
  apply toE_injective_on_valid (valid_smul _ valid_G) (valid_smul _ valid_G)
  rw [toE_smul _ valid_G, toE_smul _ valid_G]
  conv_lhs => rw [← order_G]
  exact mod_addOrderOf_nsmul _ _

end Secp.Proofs.SpecGroup
