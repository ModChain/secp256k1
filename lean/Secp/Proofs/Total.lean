import Secp.Model.Total
import Secp.Proofs.Buffers
/-
  Proofs/Total — helpers for Props/C20 (the explicit-bounds models of `Model/Total.lean`): the truncation that
  opens `NonceRFC6979` and the stores into its key buffer, and where `recoverM` reports a panic.  Core-only, so that
  the driver proofs can use it too.
-/
namespace Secp.Proofs.Total
open Secp.Spec Secp.Model

/-- `if len(b) > 32 { b = b[:32] }` (`DriversNonce.trunc32` is the same statement of the regenerated text) -/
theorem trunc_ok (b : Bytes) :
    ((if b.length > 32 then slice b 0 32 else pure b : O Bytes)) = .ok (b.take 32) := by
  split
  · rw [slice_ok (by omega) (by omega)]; rfl
  · rw [List.take_of_length_le (by omega)]; rfl

/-- one store of `nonceKeyBufO` (`Buffers.store_step` in the explicit-bounds spelling).  `A` is the filled part before
    the store and `m` the length of the zero tail, `z` the gap the store leaves after `A`, `F` the filled part after it
    and `m'` the zero tail left, `L` the length of the buffer; C20 passes them as literals, 112 = 32 + 32 + 32 + 16. -/
theorem copyAt_step {kb A F src : Bytes} {m m' z off L : Nat}
    (hkb : kb = A ++ List.replicate m (0 : UInt8)) (hL : L = A.length + m) (hoff : off = A.length + z)
    (hm : m = z + src.length + m') (hF : F = A ++ List.replicate z 0 ++ src) :
    off ≤ kb.length ∧ copyAt kb off src = F ++ List.replicate m' 0 ∧ off + min (L - off) src.length = F.length := by
  subst hkb hL hF
  refine ⟨?_, ?_, ?_⟩
  · rw [List.length_append, List.length_replicate]; omega
  · rw [Buffers.copyAt_zeros A m z off src (by omega) hoff]; congr 2; omega
  · simp only [List.length_append, List.length_replicate]; omega

/-- the final `kb[:off]` -/
theorem slice_filled {ε : Type} (K : Bytes) (m : Nat) :
    (slice (K ++ List.replicate m (0 : UInt8)) 0 K.length : Outcome ε Bytes) = .ok K := by
  rw [slice_ok (Nat.zero_le _) (by rw [List.length_append]; omega), List.take_left, List.drop_zero]

/-- the model reports `Panic` for the code 0xff (a signature built without a code) and nowhere else -/
theorem recover_panic_iff (h : Bytes) (r s v : Nat) : recoverM h r s v = .error .Panic ↔ v = 0xff := by
  unfold recoverM
  constructor
  · intro hh
    apply Classical.byContradiction
    intro hv
    rw [if_neg hv] at hh
    simp only at hh
    split at hh
    · rename_i e he
      split at he
      · split at he <;> cases he <;> cases hh
      · cases he
    · split at hh
      · cases hh
      · split at hh <;> cases hh
  · intro hv
    rw [if_pos hv]

end Secp.Proofs.Total
