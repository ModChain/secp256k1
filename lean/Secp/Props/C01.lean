import Secp.Proofs.DriversCompact
import Secp.Proofs.DriversSign
import Secp.Proofs.Ecdsa
import Secp.Props.C03
import Secp.Proofs.Ecdh
import Secp.Proofs.AbsChecked
/-
  Props/C01 — ECDSA signing is valid, deterministic and standard-conformant.
  Model: `Secp.Model.signM` (sign with a given nonce), `signRFC6979M` (retry loop over the RFC 6979
  candidates); regenerated: `Secp.Gen.Drivers.sign`, `signRFC6979`, `signCompact`, `signerSign`, `pubKey`
  (signature.go, privkey.go).  Specification: `Secp.Spec.ecdsaSignWithNonce` and the retry loop `ecdsaSignAuxGen` over
  the candidates of `nonceRFC6979`.
  The lemmas the theorems share are in `Proofs/Ecdsa.lean` (the model), `Proofs/Ecdh.lean` (k·G is finite),
  `Proofs/DriversSign.lean` and `Proofs/DriversCompact.lean` (the regenerated code).
-/
namespace Secp.Props.C01
open Secp.Spec Secp.Model Secp.Proofs Secp.Proofs.Ecdsa

/-- with a given nonce the model returns exactly the FIPS 186 signature with s in the lower half and
    the recovery code of the nonce point (parity of y, x ≥ N) adjusted for the s flip -/
theorem sign_eq_spec (hp : PointSpec) (d k : Nat) (h : Bytes) (hd : d < N) (hk0 : 0 < k) (hk : k < N)
    (hfin : smul k G ≠ none) :
    signM d k h = ecdsaSignWithNonce d k h :=
  Secp.Proofs.Ecdsa.sign_eq_spec hp d k h hd hk0 hk hfin

section
-- with `signM` folded the two equations of `signAux_eq_spec` are `rfl`; unfolded, the unifier evaluates the signing body
attribute [local irreducible] signM

/-- the deterministic signer follows the RFC 6979 candidate stream: first index whose signature exists -/
theorem signRFC6979_eq_spec (hp : PointSpec) (d : Nat) (h : Bytes) (fuel iter : Nat)
    (hfin : ∀ k, 0 < k → k < N → smul k G ≠ none) :
    signRFC6979Aux hmacSha256 d h fuel iter = ecdsaSignAuxGen hmacSha256 256 d h fuel iter :=
  signAux_eq_spec hp hmacSha256 256 d h hfin fuel iter (signRFC6979Aux hmacSha256 d h) (fun _ => rfl) (fun _ _ => rfl)

end

/-- s is always in the lower half and r, s are non-zero scalars -/
theorem sign_low_s (hp : PointSpec) (d k : Nat) (h : Bytes) (r s v : Nat) (hk : k < N)
    (hfin : smul k G ≠ none) (hs : signM d k h = some (r, s, v)) :
    0 < r ∧ r < N ∧ 0 < s ∧ s ≤ halfN ∧ v < 4 :=
  Secp.Proofs.Ecdsa.sign_low_s hp d k h r s v hk hfin hs

/-- the part of `sign_low_s` that needs nothing about the point layer (`r < N` needs the affine
    x coordinate returned by ToAffine to be < P) -/
theorem sign_low_s_partial (d k : Nat) (h : Bytes) (r s v : Nat) (hs : signM d k h = some (r, s, v)) :
    0 < r ∧ 0 < s ∧ s ≤ halfN ∧ v < 4 := by
  rw [signM_eq_body] at hs
  obtain ⟨a, -, b, c, e⟩ := signBody_props _ _ d k h r s v hs
  exact ⟨a, b, c, e⟩

/-- signing is a function of (key, nonce, hash): determinism is definitional in the model; the
    code's determinism (no hidden state) is checked by the correspondence run, which signs every
    case twice around unrelated calls and compares all encodings byte for byte -/
theorem sign_deterministic (d : Nat) (h : Bytes) : signRFC6979M d h = signRFC6979M d h := rfl

/-- the hash is read as the first 32 bytes, big-endian, reduced mod N (shorter hashes are plain integers) -/
theorem hash_to_e (h : Bytes) : hashScalar h = beNat (h.take 32) % N :=
  Buffers.scalarSetByteSlice_fst h

/-! ### unconditional forms: `PointSpec` is a theorem (`Secp.Props.C03.pointSpec`, built on the C04/C05-level proofs) -/

theorem sign_eq_spec_unconditional (d k : Nat) (h : Bytes) (hd : d < N) (hk0 : 0 < k) (hk : k < N) :
    signM d k h = ecdsaSignWithNonce d k h :=
  sign_eq_spec Secp.Props.C03.pointSpec d k h hd hk0 hk (Ecdh.smul_G_ne_none hk0 hk)

theorem signRFC6979_eq_spec_unconditional (d : Nat) (h : Bytes) (hd : d < N) (fuel iter : Nat) :
    signRFC6979Aux hmacSha256 d h fuel iter = ecdsaSignAuxGen hmacSha256 256 d h fuel iter :=
  signRFC6979_eq_spec Secp.Props.C03.pointSpec d h fuel iter (fun _ => Ecdh.smul_G_ne_none)

/-- Limb level of this property's own functions: the REGENERATED sliced field programs (tools/gotr pass T2s,
    `Secp.Gen.Slices`) of the field arithmetic of `sign` (k·G to affine, x → scalar with overflow flag, parity of y)
    pass the abstract interpreter on every path — no magnitude overflow, every comparison / parity test /
    serialisation reads a normalised value, every callee's precondition holds, every returned key or point is
    normalised.  Together with C05 (kernels) and C16 (`absPath_sound`,
    `contracts_justified`) this is what makes the value-level model above faithful to the limb code. -/
theorem sign_field_arithmetic_exact :
    Secp.Proofs.Slices.entriesOK ["github.com/ModChain/secp256k1.sign", "github.com/ModChain/secp256k1.fieldToModNScalar"] = true :=
  open Secp.Gen.Slices in
  Secp.Proofs.AbsChecked.entriesOK_of_mem [s_sign, s_fieldToModNScalar] (by simp [allSlices])

/-! ### Regenerated drivers (tools/gotr pass T8)

`Secp.Gen.Drivers` is REGENERATED from /repo on every check run: the Go functions below translated
statement by statement into Lean terms over the value-level primitives.  The theorems say the
regenerated definitions EQUAL the hand-written models the theorems above are about, so a change to
one of these functions either leaves the equality provable (then the property theorems still speak
about the code) or breaks this file.  `DR` = ok | err | panic | fuel (retry loop out of fuel) |
undef (an arithmetic assumption of the translation failed; shown never to occur). -/

section
-- the statements are re-checked against the proved ones up to the matchers only: `signM` must stay folded
-- (unfolding it under a matcher exhausts the recursion depth)
attribute [local irreducible] signM

theorem sign_regenerated (d k : Nat) (h : Bytes) :
    Secp.Gen.Drivers.sign d k h = (match signM d k h with | some x => DR.ok x | none => DR.err ()) :=
  Secp.Proofs.DriversSign.sign_regenerated d k h

theorem signRFC6979_regenerated (d : Nat) (h : Bytes) :
    Secp.Gen.Drivers.signRFC6979 d h = (match signRFC6979M d h with | some x => DR.ok x | none => DR.fuel) :=
  Secp.Proofs.DriversSign.signRFC6979_regenerated d h

theorem signRFC6979_loop_regenerated (d : Nat) (h : Bytes) (fuel iter : Nat) (hi : iter + fuel < 2^32) :
    Secp.Gen.Drivers.signRFC6979_loop d h (be32 d) fuel iter =
      (match signRFC6979Aux hmacSha256 d h fuel iter with | some x => DR.ok x | none => DR.fuel) :=
  Secp.Proofs.DriversSign.signRFC6979_loop_regenerated d h fuel iter hi

theorem fieldToModNScalar_regenerated (v : Nat) (hv : v < 2^256) :
    Secp.Gen.Drivers.fieldToModNScalar v = (if v ≥ N then v - N else v, if v ≥ N then 1 else 0) :=
  Secp.Proofs.DriversSign.fieldToModNScalar_eq v hv

theorem signCompact_regenerated (d : Nat) (h : Bytes) (c : Bool) :
    Secp.Gen.Drivers.signCompact d h c = (match Secp.Gen.Drivers.signRFC6979 d h with
      | .ok (r, s, v) => DR.ok (exportCompactM r s v true (27 + (if c then 4 else 0)))
      | .err e => DR.err e | .panic => DR.panic | .fuel => DR.fuel | .undef => DR.undef) :=
  Secp.Proofs.DriversCompact.signCompact_regenerated d h c
end

theorem pubKey_regenerated (d : Nat) :
    Secp.Gen.Drivers.pubKey d = ((toAffineJ (scalarBaseMultNC d)).1, (toAffineJ (scalarBaseMultNC d)).2.1) :=
  Secp.Proofs.DriversPubKeyOf.pubKey_regenerated d

theorem sign_front (d : Nat) (h : Bytes) : Secp.Gen.Drivers.signGen d h = Secp.Gen.Drivers.signRFC6979 d h := rfl

/-- `PrivateKey.Sign` (crypto.Signer) regenerated: signs the digest AS GIVEN with `signRFC6979`; compact export (offset 0)
    exactly when the options are `*SignOptions{Format: SignFormatCompact}`, DER otherwise; the entropy argument is
    never used (it has no counterpart in the translation: any use would leave the subset) -/
theorem signer_front (d : Nat) (digest : Bytes) (opts : Option (Nat × Nat)) :
    Secp.Gen.Drivers.signerSign d digest opts =
      (match Secp.Gen.Drivers.signRFC6979 d digest with
       | .ok (r, s, v) =>
         DR.ok (if (opts.getD (0, 0)).1 == 1 then exportCompactM r s v true 0 else serializeDER r s)
       | .err e => DR.err e | .panic => DR.panic | .fuel => DR.fuel | .undef => DR.undef) := by
  unfold Secp.Gen.Drivers.signerSign
  cases Secp.Gen.Drivers.signRFC6979 d digest with
  | ok t =>
    obtain ⟨r, s, v⟩ := t
    cases opts with
    | none => simp
    | some o =>
      simp only [Option.getD_some]
      by_cases h : (o.1 == 1) = true
      · simp only [h, if_true]
        rw [Secp.Proofs.DriversCompact.exportCompact_regenerated]
      · simp only [h, if_false, Bool.false_eq_true]
  | _ => rfl

end Secp.Props.C01
