import Secp.Proofs.DriversVerify
import Secp.Proofs.Ecdsa
import Secp.Props.C03
import Secp.Proofs.AbsChecked
/-
  Props/C02 — ECDSA verification accepts exactly the valid signatures.
  Model: `Secp.Model.verifyM` (hand-written mirror of Signature.Verify whose point operations are
  the regenerated formula programs).  Specification: `Secp.Spec.ecdsaVerify` (textbook).
  The theorems are conditional on `PointSpec` (what C03/C04 establish); `Secp.Props.C03.pointSpec` discharges it.
  The lemmas the theorems share are in `Proofs/Ecdsa.lean` (the model) and `Proofs/DriversVerify.lean` (the regenerated
  `Signature.Verify`).
-/
namespace Secp.Props.C02
open Secp.Spec Secp.Model Secp.Proofs Secp.Proofs.Ecdsa

/-- the Jacobian comparison at the end of Verify: for a finite point (X : Y : Z) with affine
    x = X/Z², and r < N, "r·Z² = X or (r < P−N and (r+N)·Z² = X)" holds exactly when x mod N = r
    — including the rare case x ≥ N. -/
theorem jacobian_compare (X Z r : Nat) (hX : X < P) (hZ : Z < P) (hZ0 : Z ≠ 0) (hr : r < N) :
    ((fmul r (fsq Z) == X) || (decide (r < P - N) && (fmul (r + N) (fsq Z) == X))) =
      (fmul X (fsq (finv Z)) % N == r) :=
  Secp.Proofs.Ecdsa.jacobian_compare X Z r hX hZ hZ0 hr

/-- the model returns exactly the textbook verdict: r, s ≠ 0, R = (e/s)·G + (r/s)·Q finite and
    x(R) mod N = r -/
theorem verify_iff (hp : PointSpec) (h : Bytes) (x y r s : Nat) (hQ : OnCurve x y) (hr : r < N) (hs : s < N) :
    verifyM h (x, y) r s = ecdsaVerify h (some (x, y)) r s := by
  unfold verifyM ecdsaVerify
  by_cases hz : r = 0 ∨ s = 0
  · rw [if_pos hz, if_pos (by tauto)]
  · have hc : ¬ (r = 0 ∨ s = 0 ∨ r ≥ N ∨ s ≥ N) := by omega
    rw [if_neg hz, if_neg hc]
    simp only
    rw [hashScalar_eq]
    obtain ⟨w3, t3⟩ := lincomb hp (nmul_lt (hashToE h) (ninv s)) (nmul_lt r (ninv s)) hQ
    rw [verify_tail _ w3 r hr, t3]
    generalize Pt.add (smul (nmul (hashToE h) (ninv s)) G) _ = R
    rcases R with _ | ⟨a, b⟩ <;> rfl

/-- zero r or s is always rejected (no PointSpec needed) -/
theorem verify_zero (h : Bytes) (Q : Nat × Nat) (r s : Nat) (hz : r = 0 ∨ s = 0) : verifyM h Q r s = false := by
  unfold verifyM; simp [hz]

-- non-vacuity of jacobian_compare's hypotheses
example : (1 : Nat) < P ∧ (1 : Nat) ≠ 0 ∧ (5 : Nat) < N := by decide

theorem verify_iff_unconditional (h : Bytes) (x y r s : Nat) (hQ : OnCurve x y) (hr : r < N) (hs : s < N) :
    verifyM h (x, y) r s = ecdsaVerify h (some (x, y)) r s :=
  verify_iff Secp.Props.C03.pointSpec h x y r s hQ hr hs

/-- Limb level of this property's own functions (as `C01.sign_field_arithmetic_exact`): the regenerated sliced field
    programs of steps 5-10 of `Verify` (infinity test, z², r·z² and (r+n)·z² compared with X.x, the r+n<p guard)
    pass the abstract interpreter on every path. -/
theorem verify_field_arithmetic_exact :
    Secp.Proofs.Slices.entriesOK ["github.com/ModChain/secp256k1.Signature.Verify", "github.com/ModChain/secp256k1.modNScalarToField", "github.com/ModChain/secp256k1.PublicKey.AsJacobian"] = true :=
  open Secp.Gen.Slices in
  Secp.Proofs.AbsChecked.entriesOK_of_mem [s_Signature_Verify, s_modNScalarToField, s_PublicKey_AsJacobian]
    (by simp [allSlices])

/-- `Signature.Verify` (signature.go) regenerated — zero checks, e, w = s⁻¹, u1·G + u2·Q, the Jacobian comparison
    r·Z² = X and the second comparison (r+N)·Z² = X guarded by r < P−N — = `verifyM`, for every r < N, s, hash and key -/
theorem verify_regenerated (r s v : Nat) (h : Bytes) (Q : Nat × Nat) (hr : r < N) :
    Secp.Gen.Drivers.verify (r, s, v) h Q = verifyM h Q r s :=
  Secp.Proofs.DriversVerify.verify_regenerated r s v h Q hr

end Secp.Props.C02
