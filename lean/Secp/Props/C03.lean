import Secp.Proofs.DriversNaf
import Secp.Proofs.DriversSmul
import Secp.Proofs.Cyclic
import Secp.Props.C04
import Secp.Proofs.Mul512
/-
  Props/C03 — scalar multiplication equals repeated group addition for every scalar and point.

  Model: `Secp.Model.scalarMultNC`, `scalarBaseMultNC`, `naf`, `splitK` (hand-written mirrors of the
  loops in curve.go; every point operation is a REGENERATED formula program, the endomorphism
  constants come from `Gen.Consts`, the 32×256 base-point table from `Gen.Table`, all regenerated from
  /repo on every run).  `smul k P` is double-and-add over the affine law, which
  `Secp.Proofs.SpecGroup.toE_smul` proves to be `k • P` in Mathlib's curve group.
  The proofs are in `Proofs/ScalarMultNaf.lean`, `ScalarMultEndo.lean`, `ScalarMultTable.lean`, `ScalarMultLoop.lean`,
  `ScalarMultSpec.lean` (digits, endomorphism, table, the two loops), `Proofs/Cyclic.lean` (group order),
  `Proofs/Mul512.lean` (the limb kernel of the split), `Proofs/DriversNaf.lean` and `DriversSmul.lean` (regenerated loops).
-/
namespace Secp.Props.C03
open Secp.Spec Secp.Model Secp.Proofs.ScalarMultSpec

/-- NAF digits: pos − neg = k, equal lengths, never both set -/
theorem naf_spec (k : Bytes) : let n := naf k
    n.posBytes.length = n.negBytes.length ∧ beNat n.posBytes = beNat k + beNat n.negBytes ∧
    ∀ i, (n.posBytes.getD i 0) &&& (n.negBytes.getD i 0) = 0 :=
  Secp.Proofs.ScalarMultNaf.naf_spec k

/-- the endomorphism split: k1 + k2·λ ≡ k (mod N) -/
theorem splitK_spec (k : Nat) : let (k1, k2) := splitK k
    k1 < N ∧ k2 < N ∧ (k1 + k2 * ((N - endoNegLambda) % N)) % N = k % N :=
  Secp.Proofs.ScalarMultSpec.splitK_spec k

/-- (β·x, y) = λ•(x, y) for every point of the group -/
theorem endo_spec (m x y : Nat) (h : smul m G = some (x, y)) :
    smul ((N - endoNegLambda) % N) (some (x, y)) = some (fmul x endoBeta, y) :=
  Secp.Proofs.ScalarMultEndo.endo_spec m x y h

/-- ALL 8192 entries of the embedded table (one kernel evaluation, `ScalarMultTable.tableOK`): entry (i, j) is
    (j·256^(31−i))•G, with (0,0,1) for the identity -/
theorem table_spec (i j : Nat) (hi : i < 32) (hj : j < 256) :
    Jac.WF (tablePoint i j) ∧ Jac.toPt (tablePoint i j) = smul (j * 256 ^ (31 - i)) G :=
  Secp.Proofs.ScalarMultTable.table_spec i j hi hj

/-- base-point multiplication returns k•G for every scalar in [0, N) -/
theorem scalarBaseMult_spec (k : Nat) (hk : k < N) :
    Jac.WF (scalarBaseMultNC k) ∧ Jac.toPt (scalarBaseMultNC k) = smul k G :=
  Secp.Proofs.ScalarMultLoop.scalarBaseMult_spec (pointOps'_of_pointOps Secp.Props.C04.pointOps) k
    (Nat.lt_trans hk Secp.Proofs.Bytes.N_lt_pow)

/-- variable-point multiplication returns k•P for every scalar (the split reduces it mod N) and EVERY
    point of the curve (the group is cyclic of prime order N: `Secp.Proofs.Cyclic.card_E`) -/
theorem scalarMult_spec (k x y : Nat) (hxy : OnCurve x y) :
    Jac.WF (scalarMultNC k (x, y, 1)) ∧ Jac.toPt (scalarMultNC k (x, y, 1)) = smul k (some (x, y)) := by
  obtain ⟨m, hm⟩ := Secp.Proofs.Cyclic.cyclic x y hxy
  exact Secp.Proofs.ScalarMultSpec.scalarMult_spec (pointOps'_of_pointOps Secp.Props.C04.pointOps) k x y m hxy hm

theorem card_E : Nat.card Secp.Proofs.SpecGroup.E.Point = N := Secp.Proofs.Cyclic.card_E

/-- `smul` IS scalar multiplication in Mathlib's group -/
theorem smul_is_nsmul (k : Nat) (p : Pt) (hp : Secp.Proofs.SpecGroup.Valid p) :
    Secp.Proofs.SpecGroup.toE (smul k p) = k • Secp.Proofs.SpecGroup.toE p :=
  Secp.Proofs.SpecGroup.toE_smul k hp

/-- the public key of private key d is exactly d•G, in affine form -/
theorem pubKey_spec (d x y : Nat) (hd : d < N) (h : smul d G = some (x, y)) :
    toAffineJ (scalarBaseMultNC d) = (x, y, 1) := by
  obtain ⟨hw, ht⟩ := scalarBaseMult_spec d hd
  exact Secp.Props.C04.toAffine_spec _ x y hw (ht.trans h)

/-- THE LAYER CONTRACT, UNCONDITIONALLY: everything the protocol-level properties assume about point
    arithmetic -/
theorem pointSpec : PointSpec where
  sbmul := scalarBaseMult_spec
  smulA := fun k x y _ hxy => scalarMult_spec k x y hxy
  add3 := Secp.Props.C04.pointOps.add3
  toAffine := Secp.Props.C04.pointOps.toAffine
  decompress := Secp.Props.C04.pointOps.decompress

/-- Limb level of this property's own functions (as `C01.sign_field_arithmetic_exact`): the regenerated sliced field
    programs of the prelude (±P, ±φ(P)) and loops of ScalarMultNonConst, the table walk of ScalarBaseMultNonConst,
    PubKey pass the abstract interpreter on every path. -/
theorem scalar_mult_field_arithmetic_exact :
    Secp.Proofs.Slices.entriesOK ["github.com/ModChain/secp256k1.ScalarMultNonConst", "github.com/ModChain/secp256k1.ScalarBaseMultNonConst", "github.com/ModChain/secp256k1.PrivateKey.PubKey"] = true :=
  open Secp.Gen.Slices in
  Secp.Proofs.AbsChecked.entriesOK_of_mem
    [s_ScalarMultNonConst, s_ScalarBaseMultNonConst, s_PrivateKey_PubKey]
    (by simp [allSlices])

/-- The 64-bit limb code of `mul512Rsh320Round` (curve.go), as REGENERATED by tools/gotr T1 with Go wrap-around
    semantics and math/bits intrinsics, returns for EVERY pair of 8-word operands the words of
    ⌊(n1·n2 + 2^319) / 2^320⌋ = `Model.mul512Rsh320Round` — the function the model of splitK (and hence
    `splitK_spec`, the two multiplication loops and `pointSpec`) is stated with.  No intermediate wraps, the
    dropped carries are zero, and the rounding increment is carried through all result digits (the 2^-64 and
    2^-128 cases no test reaches). -/
theorem mul512Rsh320Round_limbs (a b : Secp.Limbs.L8) (ha : a.U32) (hb : b.U32) :
    ∃ r : Secp.Limbs.L8, Secp.Gen.Scalar_mul512Rsh320Round.runW (a.toList ++ b.toList) = r.toList ∧ r.U32 ∧
      r.val = Secp.Model.mul512Rsh320Round a.val b.val :=
  Secp.Proofs.Mul512.mul512_spec a b ha hb

/-! ### Regenerated drivers (tools/gotr pass T8): the Go functions of this property, as `Secp.Gen.Drivers` has
    them, equal the models above (Props/C01 says what that means and what `DR` is) -/

/-- `splitK` regenerated = the model (definitionally) -/
theorem splitK_regenerated (k : Nat) : Secp.Gen.Drivers.splitKGen k = splitK k :=
  Secp.Proofs.DriversSmul.splitKGen_regenerated k

/-- `naf` regenerated — the descending byte loop with uint16 arithmetic writing into two 33-byte arrays — = the model,
    for every byte string with at most 32 significant bytes (what the 33-entry arrays of the Go code can hold; with 33
    the Go code panics: `Secp.Proofs.DriversNaf.nafGen_bound_needed`) -/
theorem naf_regenerated (k : Bytes) (hk : (stripZeros k).length ≤ 32) :
    Secp.Gen.Drivers.nafGen k = ((naf k).pos, (naf k).neg, (naf k).start, (naf k).stop) :=
  Secp.Proofs.DriversNaf.nafGen_regenerated' k hk

/-- `ScalarMultNonConst` regenerated — the four point copies, the split, the sign flips with swapped copies, both NAF
    strings, their alignment and the interleaved double-and-add loop — = `scalarMultNC`, for every scalar, every input
    triple and whatever the result object held before -/
theorem scalarMult_regenerated (k : Nat) (point result : Jac) :
    Secp.Gen.Drivers.scalarMultNonConst k point result = scalarMultNC k point :=
  Secp.Proofs.DriversSmul.scalarMultNonConst_regenerated
    Secp.Proofs.DriversNaf.nafGen_regenerated k point result

/-- `ScalarBaseMultNonConst` regenerated — 32 table additions indexed by the scalar's bytes — = `scalarBaseMultNC`, whatever
    the result object held before -/
theorem scalarBaseMult_regenerated (k : Nat) (result : Jac) :
    Secp.Gen.Drivers.scalarBaseMultNonConst k result = scalarBaseMultNC k := by
  unfold Secp.Gen.Drivers.scalarBaseMultNonConst scalarBaseMultNC Jac.inf
  with_reducible rfl

end Secp.Props.C03
