import Secp.Proofs.PointOps
import Secp.Proofs.Chains
import Secp.Proofs.AbsSound
import Secp.Proofs.AbsChecked
/-
  Props/C04 — point addition and doubling implement the group law for every representation.

  The objects are the REGENERATED call-structured formula programs `Secp.Gen.FormulasC` (tools/gotr
  pass T2 from curve.go on every run): `AddNonConst` with a distinct result (`addNC3`), with the
  result aliasing the first operand (`addNC`, entry AddNonConst_a010 — the way every caller in the
  library uses it), with the result aliasing the second operand (`addNCr2`, entry AddNonConst_a011), `DoubleNonConst` in place (`dblNC`, entry DoubleNonConst_a00), and `ToAffine`.
  `Jac.toPt` maps a Jacobian triple to the affine point it represents (`none` for Z = 0 or
  X = Y = 0); `Secp.Spec.Pt.add/Pt.dbl` is the affine chord-and-tangent law, which
  `Secp.Proofs.SpecGroup` proves to be Mathlib's `WeierstrassCurve.Affine.Point` group law.
  All inputs: every well-formed Jacobian triple — any Z scaling, Z = 1, shared Z, equal points,
  opposite points, the identity in any encoding.
  The contracts of the routines (`add_call`, `doubleNonConst_contract`) are proved in `Proofs/PointOps*.lean`, `ToAffine` and
  `DecompressY` in `Proofs/Chains.lean`; the limb-level acceptance facts are evaluated once in `Proofs/AbsChecked.lean`.
-/
namespace Secp.Props.C04
open Secp.Spec Secp.Model

/-- `AddNonConst(&q, p, &q)`: the result is well formed (normalised, on the curve or the identity) and represents q + p -/
theorem add_inplace_spec (q p : Jac) (hq : Jac.WF q) (hp : Jac.WF p) :
    Jac.WF (addNC q p) ∧ Jac.toPt (addNC q p) = Pt.add (Jac.toPt q) (Jac.toPt p) := by
  obtain ⟨r, hrun, hok⟩ := Secp.Proofs.PointOps.add_call q p hq hp
  rw [Secp.Proofs.PointOps.addNC_of_run (hrun .first)]
  exact hok

/-- `AddNonConst(&a, &b, &r)` with three distinct objects -/
theorem add_spec (a b : Jac) (ha : Jac.WF a) (hb : Jac.WF b) :
    Jac.WF (addNC3 a b) ∧ Jac.toPt (addNC3 a b) = Pt.add (Jac.toPt a) (Jac.toPt b) := by
  obtain ⟨r, hrun, hok⟩ := Secp.Proofs.PointOps.add_call a b ha hb
  rw [Secp.Proofs.PointOps.addNC3_of_run (hrun .distinct)]
  exact hok

/-- `AddNonConst(&a, &b, &b)`: the result aliases the second operand -/
theorem add_alias_second_spec (a b : Jac) (ha : Jac.WF a) (hb : Jac.WF b) :
    Jac.WF (addNCr2 a b) ∧ Jac.toPt (addNCr2 a b) = Pt.add (Jac.toPt a) (Jac.toPt b) := by
  obtain ⟨r, hrun, hok⟩ := Secp.Proofs.PointOps.add_call a b ha hb
  rw [Secp.Proofs.PointOps.addNCr2_of_run (hrun .second)]
  exact hok

/-- … and that call leaves its first operand untouched -/
theorem add_alias_second_preserves_first (a b : Jac) (ha : Jac.WF a) (hb : Jac.WF b) :
    (match runNamed "AddNonConst_a011" [a.1, a.2.1, a.2.2, b.1, b.2.1, b.2.2] [] with
     | some (r, _) => (Secp.FOp.rget r 0, Secp.FOp.rget r 1, Secp.FOp.rget r 2) = a | none => False) := by
  obtain ⟨r, hrun, _⟩ := Secp.Proofs.PointOps.add_call a b ha hb
  exact Secp.Proofs.PointOps.addNCr2_first (hrun .second)

/-- `DoubleNonConst(&q, &q)` -/
theorem double_inplace_spec (q : Jac) (hq : Jac.WF q) :
    Jac.WF (dblNC q) ∧ Jac.toPt (dblNC q) = Pt.dbl (Jac.toPt q) := by
  -- 6 + 2 = the call depth 8 of `runNamed`
  obtain ⟨r, hrun, hok⟩ := Secp.Proofs.PointOps.doubleNonConst_contract 6 q hq
  rw [Secp.Proofs.PointOps.dblNC_of_run (hrun true)]
  exact hok

/-- `ToAffine` of a finite point returns its affine coordinates with Z = 1 -/
theorem toAffine_spec (q : Jac) (x y : Nat) (hq : Jac.WF q) (h : Jac.toPt q = some (x, y)) :
    toAffineJ q = (x, y, 1) := by
  obtain ⟨X, Y, Z⟩ := q
  rw [Secp.Proofs.Chains.toAffine_run_of_Z X Y Z hq.2.2.1]
  unfold Jac.toPt at h
  split at h
  · exact absurd h (by simp)
  · simp only [Option.some.injEq, Prod.mk.injEq] at h
    rw [h.1, h.2]

/-- the affine law the routines are compared with IS the group law: for valid points it is
    Mathlib's addition on `WeierstrassCurve.Affine.Point` -/
theorem spec_is_group_law (p q : Pt) (hp : Secp.Proofs.SpecGroup.Valid p) (hq : Secp.Proofs.SpecGroup.Valid q) :
    Secp.Proofs.SpecGroup.toE (Pt.add p q) = Secp.Proofs.SpecGroup.toE p + Secp.Proofs.SpecGroup.toE q :=
  Secp.Proofs.SpecGroup.toE_add hp hq

/-- the layer contract consumed by C03 and the protocol properties -/
theorem pointOps : PointOps where
  add := add_inplace_spec
  dbl := double_inplace_spec
  add3 := add_spec
  toAffine := toAffine_spec
  decompress := fun x odd _ => Secp.Proofs.Chains.decompress_spec_all x odd

/-! ### The value-level theorems above describe the code only if no limb wraps

The theorems of this file are about the formula programs run at VALUE level (field elements as
naturals mod P).  They carry over to the uint32 limbs of the real routines exactly when the
abstract interpreter accepts every path of the regenerated limb-level program (`absPath_sound`,
C16): every `Negate(m)` is given at least the magnitude of its operand, no Add/MulInt exceeds
capacity, no comparison sees a denormalised value, result coordinates end normalised.  Those
obligations are restated here because the group-law claim of this property depends on them.
The theorems above are about the table `Gen.FormulasC` (calls kept, one entry per aliasing pattern),
the facts below about `Gen.Formulas` (everything inlined); the generator emits both from the same Go
functions, and no theorem relates the two tables. -/
section LimbLevel
open Secp.FOp Secp.Gen.Formulas

-- the list `AbsChecked.nrmIn n`, with which the cited facts are stated
private def nrmIn (n : Nat) : AState := List.replicate n (some (1, true))

theorem addZ1AndZ2EqualsOne_limb_exact : addZ1AndZ2EqualsOne.absOK (nrmIn 9) [6, 7, 8] = true := Secp.Proofs.AbsChecked.addZ1AndZ2EqualsOne_ok
theorem addZ1EqualsZ2_limb_exact : addZ1EqualsZ2.absOK (nrmIn 9) [6, 7, 8] = true := Secp.Proofs.AbsChecked.addZ1EqualsZ2_ok
theorem addZ2EqualsOne_limb_exact : addZ2EqualsOne.absOK (nrmIn 9) [6, 7, 8] = true := Secp.Proofs.AbsChecked.addZ2EqualsOne_ok
theorem addGeneric_limb_exact : addGeneric.absOK (nrmIn 9) [6, 7, 8] = true := Secp.Proofs.AbsChecked.addGeneric_ok
theorem doubleZ1EqualsOne_limb_exact : doubleZ1EqualsOne.absOK (nrmIn 6) [3, 4, 5] = true := Secp.Proofs.AbsChecked.doubleZ1EqualsOne_ok
theorem doubleGeneric_limb_exact : doubleGeneric.absOK (nrmIn 6) [3, 4, 5] = true := Secp.Proofs.AbsChecked.doubleGeneric_ok
theorem AddNonConst_limb_exact : AddNonConst.absOK (nrmIn 9) [6, 7, 8] = true :=
  Secp.Proofs.AbsChecked.absOK_of_absPost _ _ _ _ (by decide) Secp.Proofs.AbsChecked.AddNonConst_post
theorem AddNonConst_r1_limb_exact : AddNonConst_r1.absOK (nrmIn 6) [0, 1, 2] = true :=
  Secp.Proofs.AbsChecked.absOK_of_absPost _ _ _ _ (by decide) Secp.Proofs.AbsChecked.AddNonConst_r1_post
theorem AddNonConst_r2_limb_exact : AddNonConst_r2.absOK (nrmIn 6) [3, 4, 5] = true :=
  Secp.Proofs.AbsChecked.absOK_of_absPost _ _ _ _ (by decide) Secp.Proofs.AbsChecked.AddNonConst_r2_post
theorem DoubleNonConst_limb_exact : DoubleNonConst.absOK (nrmIn 6) [3, 4, 5] = true :=
  Secp.Proofs.AbsChecked.absOK_of_absPost _ _ _ _ (by decide) Secp.Proofs.AbsChecked.DoubleNonConst_post
theorem DoubleNonConst_r1_limb_exact : DoubleNonConst_r1.absOK (nrmIn 3) [0, 1, 2] = true :=
  Secp.Proofs.AbsChecked.absOK_of_absPost _ _ _ _ (by decide) Secp.Proofs.AbsChecked.DoubleNonConst_r1_post
theorem ToAffine_limb_exact : ToAffine.absOK (nrmIn 3) [0, 1, 2] = true := Secp.Proofs.AbsChecked.ToAffine_ok

end LimbLevel

-- non-vacuity: the generator with Z = 1 is well formed
example : Jac.WF (Gx, Gy, 1) := by
  refine ⟨by decide, by decide, by decide, Or.inr ?_⟩
  decide +kernel

end Secp.Props.C04
