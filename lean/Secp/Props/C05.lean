import Secp.Gen.Drivers
import Secp.Proofs.Buffers
import Secp.Proofs.DriversWrapField  -- its theorems are private: imported to be built with this check
import Secp.Proofs.FieldMul
import Secp.Proofs.IRHelpers
/-
  Props/C05 — field arithmetic is exact modulo p under the documented preconditions.

  Every theorem is about `Kernel.runW` (Go semantics: 32/64-bit wrap-around, bit
  operations) of a kernel in `Secp.Gen.FieldIR`, which tools/gotr REGENERATES from
  /repo/field.go on every check run; nothing here is a hand-written model.  Input
  order of a kernel: receiver limbs, then each pointer parameter's limbs/bytes,
  then integer parameters.  A theorem is named after the Go method without its `Val` /
  `Unchecked` suffix (`square_spec` is about `SquareVal`).
-/
namespace Secp.Props.C05
open Secp.Spec Secp.Gen Secp.Limbs
open Secp.Proofs.IRRun Secp.Proofs.IRHelpers Secp.Proofs.ScalarLemmas Secp.Proofs.FieldSmall Secp.Radix

/-- Mul2: for operands of magnitude ≤ 8 (any receiver contents), no intermediate wraps, the
    result has magnitude ≤ 1 and denotes the product modulo P. -/
theorem mul2_spec (f a b : L10) (hf : f.U32) (ha : a.MagLE 8) (hb : b.MagLE 8) :
    ∃ o : L10, Field_Mul2.runW (f.toList ++ a.toList ++ b.toList) = o.toList ∧ o.MagLE 1 ∧
      o.val % P = (a.val * b.val) % P :=
  Secp.Proofs.FieldMul.mul2_spec f a b hf ha hb

theorem square_spec (f a : L10) (hf : f.U32) (ha : a.MagLE 8) :
    ∃ o : L10, Field_SquareVal.runW (f.toList ++ a.toList) = o.toList ∧ o.MagLE 1 ∧
      o.val % P = (a.val * a.val) % P :=
  Secp.Proofs.FieldMul.square_spec f a hf ha

/-- Normalize ("Preconditions: None"): for EVERY limb vector that fits uint32 the result is the
    unique representative in [0, P) with canonical limbs. -/
theorem normalize_spec (f : L10) (hf : f.U32) :
    ∃ o : L10, Field_Normalize.runW f.toList = o.toList ∧ o.Normalized ∧ o.val = f.val % P :=
  Secp.Proofs.FieldMul.normalize_spec f hf

/-- NegateVal(val, m): for magnitude m ≤ 63 the result has magnitude ≤ m+1 and denotes −val. -/
theorem negate_spec (f a : L10) (m : Nat) (hm : m ≤ 63) (ha : a.MagLE m) :
    ∃ o : L10, Field_NegateVal.runW (f.toList ++ a.toList ++ [m]) = o.toList ∧ o.MagLE (m + 1) ∧
      (o.val + a.val) % P = 0 := by
  obtain ⟨h0, h1, h2, h3, h4, h5, h6, h7, h8, h9⟩ := ha
  have g0 := neg_limb (c := 67107887) hm h0
  have g1 := neg_limb (c := 67108799) hm h1
  have g2 := neg_limb (c := 67108863) hm h2
  have g3 := neg_limb (c := 67108863) hm h3
  have g4 := neg_limb (c := 67108863) hm h4
  have g5 := neg_limb (c := 67108863) hm h5
  have g6 := neg_limb (c := 67108863) hm h6
  have g7 := neg_limb (c := 67108863) hm h7
  have g8 := neg_limb (c := 67108863) hm h8
  have g9 := neg_limb (c := 4194303) hm h9
  refine ⟨⟨_, _, _, _, _, _, _, _, _, _⟩, ?_, ⟨g0.2.2, g1.2.2, g2.2.2, g3.2.2, g4.2.2, g5.2.2, g6.2.2, g7.2.2,
    g8.2.2, g9.2.2⟩, ?_⟩
  · simp only [L10.toList]
    unfold_run Field_NegateVal
    simp only [g0.1, g1.1, g2.1, g3.1, g4.1, g5.1, g6.1, g7.1, g8.1, g9.1]
  · -- limb by limb the sum is (m + 1) times the limb of P (the `c` above, `FieldSmall.P_limbs`)
    rw [← L10.val_add]
    simp only [g0.2.1, g1.2.1, g2.2.1, g3.2.1, g4.2.1, g5.2.1, g6.2.1, g7.2.1, g8.2.1, g9.2.1]
    simp only [L10.val, P]; omega

theorem add_spec (f a : L10) (m k : Nat) (hmk : m + k ≤ 63) (hf : f.MagLE m) (ha : a.MagLE k) :
    ∃ o : L10, Field_Add.runW (f.toList ++ a.toList) = o.toList ∧ o.MagLE (m + k) ∧ o.val = f.val + a.val := by
  simp only [L10.toList]
  unfold_run Field_Add
  exact add_core hmk hf ha

theorem add2_spec (f a b : L10) (m k : Nat) (hmk : m + k ≤ 63) (ha : a.MagLE m) (hb : b.MagLE k) :
    ∃ o : L10, Field_Add2.runW (f.toList ++ a.toList ++ b.toList) = o.toList ∧ o.MagLE (m + k) ∧
      o.val = a.val + b.val := by
  simp only [L10.toList]
  unfold_run Field_Add2
  exact add_core hmk ha hb

/-- AddInt: only limb 0 changes; exact. (the kernel's only output is the new limb 0) -/
theorem addInt_spec (f : L10) (m ui : Nat) (hm : m ≤ 62) (hf : f.MagLE m) (hui : ui < 2^16) :
    Field_AddInt.runW (f.toList ++ [ui]) = [f.n0 + ui] ∧ f.n0 + ui ≤ (m + 1) * LB := by
  have h0 := hf.1
  simp only [L10.toList, LB] at h0 ⊢
  unfold_run Field_AddInt
  simp only [List.cons.injEq, and_true]
  omega

theorem mulInt_spec (f : L10) (m v : Nat) (hmv : m * v ≤ 63) (hf : f.MagLE m) :
    ∃ o : L10, Field_MulInt.runW (f.toList ++ [v]) = o.toList ∧ o.MagLE (m * v) ∧ o.val = v * f.val := by
  obtain ⟨h0, h1, h2, h3, h4, h5, h6, h7, h8, h9⟩ := hf
  have hM : (⟨f.n0 * v, f.n1 * v, f.n2 * v, f.n3 * v, f.n4 * v, f.n5 * v, f.n6 * v, f.n7 * v, f.n8 * v,
      f.n9 * v⟩ : L10).MagLE (m * v) :=
    ⟨mul_le h0, mul_le h1, mul_le h2, mul_le h3, mul_le h4, mul_le h5, mul_le h6, mul_le h7, mul_le h8, mul_le h9⟩
  refine ⟨_, ?_, hM, ?_⟩
  · simp only [L10.toList]
    unfold_run Field_MulInt
    exact (hM.u32 hmv).wrap
  · simp only [L10.val]
    rw [Nat.mul_comm v]
    simp only [Nat.add_mul, Nat.mul_right_comm _ _ v]

theorem setBytes_spec (f : L10) (b : List Nat) (hb : b.length = 32) (hlt : AllLt 256 b) :
    ∃ o : L10, ∃ ov : Nat, Field_SetBytes.runW (f.toList ++ b) = o.toList ++ [ov] ∧ o.Tight ∧
      o.val = bytesVal b ∧ ov = (if bytesVal b ≥ P then 1 else 0) := by
  obtain ⟨b0, b1, b2, b3, b4, b5, b6, b7, b8, b9, b10, b11, b12, b13, b14, b15, b16, b17, b18, b19, b20, b21, b22, b23, b24, b25, b26, b27, b28, b29, b30, b31, rfl⟩ := list32 hb
  simp only [AllLt, List.mem_cons, List.not_mem_nil, or_false, forall_eq_or_imp, forall_eq] at hlt
  obtain ⟨h0, h1, h2, h3, h4, h5, h6, h7, h8, h9, h10, h11, h12, h13, h14, h15, h16, h17, h18, h19, h20, h21, h22, h23, h24, h25, h26, h27, h28, h29, h30, h31⟩ := hlt
  -- bit fields and comparisons only, nothing can wrap: the Go semantics is read directly (the
  -- scalar SetBytes goes on to reduce and is read in the ideal semantics)
  have h := kernel_steps_W Field_SetBytes (f.toList ++ [b0, b1, b2, b3, b4, b5, b6, b7, b8, b9, b10, b11, b12, b13, b14, b15, b16, b17, b18, b19, b20, b21, b22, b23, b24, b25, b26, b27, b28, b29, b30, b31])
  simp only [L10.toList, List.reverse_cons, List.reverse_nil, List.nil_append, List.cons_append] at h
  ir_steps h
  have hrun := h.out
  clear h
  obtain ⟨l0, t0⟩ := pack4 26 e0 h31 h30 h29 (Nat.mod_lt _ (by decide))
  obtain ⟨l1, t1⟩ := pack4 26 e1 (Nat.div_lt_of_lt_mul h28) h27 h26 (Nat.mod_lt _ (by decide))
  obtain ⟨l2, t2⟩ := pack4 26 e2 (Nat.div_lt_of_lt_mul h25) h24 h23 (Nat.mod_lt _ (by decide))
  obtain ⟨l3, t3⟩ := pack4 26 e3 (Nat.div_lt_of_lt_mul h22) h21 h20 h19
  obtain ⟨l4, t4⟩ := pack4 26 e4 h18 h17 h16 (Nat.mod_lt _ (by decide))
  obtain ⟨l5, t5⟩ := pack4 26 e5 (Nat.div_lt_of_lt_mul h15) h14 h13 (Nat.mod_lt _ (by decide))
  obtain ⟨l6, t6⟩ := pack4 26 e6 (Nat.div_lt_of_lt_mul h12) h11 h10 (Nat.mod_lt _ (by decide))
  obtain ⟨l7, t7⟩ := pack4 26 e7 (Nat.div_lt_of_lt_mul h9) h8 h7 h6
  obtain ⟨l8, t8⟩ := pack4 26 e8 h5 h4 h3 (Nat.mod_lt _ (by decide))
  obtain ⟨l9, t9⟩ := pack3 22 e9 (Nat.div_lt_of_lt_mul h2) h1 h0
  -- 13 + 13 + 6 bytes are 4 + 4 + 2 limbs
  have g0 := bytes13 b31 b30 b29 b28 b27 b26 b25 b24 b23 b22 b21 b20 b19
  rw [← l0, ← l1, ← l2, ← l3] at g0
  have g1 := bytes13 b18 b17 b16 b15 b14 b13 b12 b11 b10 b9 b8 b7 b6
  rw [← l4, ← l5, ← l6, ← l7] at g1
  have g2 := bytes6 b5 b4 b3 b2 b1 b0
  rw [← l8, ← l9] at g2
  have hval : (⟨v0, v1, v2, v3, v4, v5, v6, v7, v8, v9⟩ : L10).val = bytesVal [b0, b1, b2, b3, b4, b5, b6, b7, b8, b9, b10, b11, b12, b13, b14, b15, b16, b17, b18, b19, b20, b21, b22, b23, b24, b25, b26, b27, b28, b29, b30, b31] := by
    rw [bytesVal_eq_val, L10.val_eq]
    exact (val_append_congr g0 pow104 (val_append_congr g1 pow104 g2)).symm
  -- the flag: limb by limb against P from the top; equal down to limb 2 ..
  have q17 := Ind.lex_eq t2 (by decide) (Ind.lex_eq t3 (by decide) (Ind.lex_eq t4 (by decide)
    (Ind.lex_eq t5 (by decide) (Ind.lex_eq t6 (by decide) (Ind.lex_eq t7 (by decide)
    (Ind.lex_eq t8 (by decide) (Ind.lex_eq_top e10) e11) e12) e13) e14) e15) e16) e17
  -- .. where the limbs of P are 2^26 - 1 and cannot be exceeded
  have top : val (2 ^ 26) [v2, v3, v4, v5, v6, v7, v8, v9] ≤ val (2 ^ 26) [67108863, 67108863, 67108863,
      67108863, 67108863, 67108863, 67108863, 4194303] :=
    val_cons_le_max t2 rfl <| val_cons_le_max t3 rfl <| val_cons_le_max t4 rfl <| val_cons_le_max t5 rfl <|
    val_cons_le_max t6 rfl <| val_cons_le_max t7 rfl <| val_cons_le_max t8 rfl <|
    Nat.add_le_add_right (Nat.le_of_lt_succ t9) _
  have i22 := Ind.lex_ge t0 (by decide) (Ind.lex_gt_first t1 (by decide) top q17 e18 e19)
    (Ind.lex_eq t1 (by decide) q17 e20) e21 e22
  refine ⟨⟨v0, v1, v2, v3, v4, v5, v6, v7, v8, v9⟩, v22, hrun, ⟨t0, t1, t2, t3, t4, t5, t6, t7, t8, t9⟩, hval, ?_⟩
  rw [← hval, L10.val_eq, P_limbs]
  exact i22.ite

theorem putBytes_spec (f : L10) (b : List Nat) (hb : b.length = 32) (hf : f.Tight) :
    ∃ o : List Nat, Field_PutBytesUnchecked.runW (f.toList ++ b) = o ∧ o.length = 32 ∧ AllLt 256 o ∧
      bytesVal o = f.val := by
  obtain ⟨b0, b1, b2, b3, b4, b5, b6, b7, b8, b9, b10, b11, b12, b13, b14, b15, b16, b17, b18, b19, b20, b21, b22, b23, b24, b25, b26, b27, b28, b29, b30, b31, rfl⟩ := list32 hb
  obtain ⟨t0, t1, t2, t3, t4, t5, t6, t7, t8, t9⟩ := hf
  -- shifts, masks and byte conversions only: the Go semantics is read directly
  have h := kernel_steps_W Field_PutBytesUnchecked (f.toList ++ [b0, b1, b2, b3, b4, b5, b6, b7, b8, b9, b10, b11, b12, b13, b14, b15, b16, b17, b18, b19, b20, b21, b22, b23, b24, b25, b26, b27, b28, b29, b30, b31])
  simp only [L10.toList, List.reverse_cons, List.reverse_nil, List.nil_append, List.cons_append] at h
  ir_steps h
  have hrun := h.out
  clear h
  -- the bytes that straddle two limbs
  obtain ⟨a3, d3⟩ := or_field_split e3 (Nat.mod_lt _ (by decide)) (Nat.mod_lt _ (by decide))
  obtain ⟨a6, d6⟩ := or_field_split e6 (Nat.mod_lt _ (by decide)) (Nat.mod_lt _ (by decide))
  obtain ⟨a9, d9⟩ := or_field_split e9 (Nat.mod_lt _ (by decide)) (Nat.mod_lt _ (by decide))
  obtain ⟨a16, d16⟩ := or_field_split e16 (Nat.mod_lt _ (by decide)) (Nat.mod_lt _ (by decide))
  obtain ⟨a19, d19⟩ := or_field_split e19 (Nat.mod_lt _ (by decide)) (Nat.mod_lt _ (by decide))
  obtain ⟨a22, d22⟩ := or_field_split e22 (Nat.mod_lt _ (by decide)) (Nat.mod_lt _ (by decide))
  obtain ⟨a29, d29⟩ := or_field_split e29 (Nat.mod_lt _ (by decide)) (Nat.mod_lt _ (by decide))
  -- 13 + 13 + 6 bytes are 4 + 4 + 2 limbs, each limb the sum of its bit fields
  have g0 := bytes13 v0 v1 v2 v3 v4 v5 v6 v7 v8 v9 v10 v11 v12
  conv at g0 =>
    rhs
    rw [a3, d3, a6, d6, a9, d9, e0, e1, e2, e4, e5, e7, e8, e10, e11, e12, split4 26 8 16 24 t0,
      split4 26 6 14 22 t1, split4 26 4 12 20 t2, split4 26 2 10 18 t3]
  have g1 := bytes13 v13 v14 v15 v16 v17 v18 v19 v20 v21 v22 v23 v24 v25
  conv at g1 =>
    rhs
    rw [a16, d16, a19, d19, a22, d22, e13, e14, e15, e17, e18, e20, e21, e23, e24, e25, split4 26 8 16 24 t4,
      split4 26 6 14 22 t5, split4 26 4 12 20 t6, split4 26 2 10 18 t7]
  have g2 := bytes6 v26 v27 v28 v29 v30 v31
  conv at g2 =>
    rhs
    rw [a29, d29, e26, e27, e28, e30, e31, split4 26 8 16 24 t8, split3 22 6 14 t9]
  -- elaborated with no expected type: against the goal, the unification of `xs ++ ys` with the
  -- 32-element literal runs out of heartbeats
  have g := val_append_congr g0 pow104 (val_append_congr g1 pow104 g2)
  refine ⟨[v31, v30, v29, v28, v27, v26, v25, v24, v23, v22, v21, v20, v19, v18, v17, v16, v15, v14, v13, v12, v11, v10, v9, v8, v7, v6, v5, v4, v3, v2, v1, v0], hrun, rfl, ?_, ?_⟩
  · simp only [AllLt, List.forall_mem_cons, List.not_mem_nil, false_imp_iff, implies_true, and_true]
    exact ⟨digit_lt e31, digit_lt e30, digit_lt e29, digit_lt e28, digit_lt e27, digit_lt e26, digit_lt e25, digit_lt e24, digit_lt e23, digit_lt e22, digit_lt e21, digit_lt e20, digit_lt e19, digit_lt e18, digit_lt e17, digit_lt e16, digit_lt e15, digit_lt e14, digit_lt e13, digit_lt e12, digit_lt e11, digit_lt e10, digit_lt e9, digit_lt e8, digit_lt e7, digit_lt e6, digit_lt e5, digit_lt e4, digit_lt e3, digit_lt e2, digit_lt e1, digit_lt e0⟩
  · rw [bytesVal_eq_val, L10.val_eq]
    exact g

theorem isZero_spec (f : L10) :
    Field_IsZero.runW f.toList = [if f.val = 0 then 1 else 0] ∧
    Field_IsZeroBit.runW f.toList = [if f.val = 0 then 1 else 0] := by
  have h := ((Ind.beq rfl).congr (L10.or_eq_zero f)).ite
  simp only [L10.toList]
  constructor
  · unfold_run Field_IsZero
    rw [h]
  · unfold_run Field_IsZeroBit
    rw [h]

theorem isOne_spec (f : L10) :
    Field_IsOne.runW f.toList = [if f.val = 1 then 1 else 0] ∧
    Field_IsOneBit.runW f.toList = [if f.val = 1 then 1 else 0] := by
  have k : f.n0 ^^^ 1 ||| f.n1 ||| f.n2 ||| f.n3 ||| f.n4 ||| f.n5 ||| f.n6 ||| f.n7 ||| f.n8 ||| f.n9 = 0 ↔
      f.val = 1 := by
    simp only [Nat.or_eq_zero_iff, xor_eq_zero_iff, L10.val]; omega
  have h := ((Ind.beq rfl).congr k).ite
  simp only [L10.toList]
  constructor
  · unfold_run Field_IsOne
    rw [h]
  · unfold_run Field_IsOneBit
    rw [h]

theorem isOdd_spec (f : L10) :
    Field_IsOdd.runW f.toList = [f.val % 2] ∧ Field_IsOddBit.runW f.toList = [f.val % 2] := by
  have h : f.val % 2 = f.n0 % 2 := by simp only [L10.val]; omega
  simp only [L10.toList]
  constructor
  · unfold_run Field_IsOdd
    rw [h, b2n_odd]
  · unfold_run Field_IsOddBit
    rw [h]

theorem equals_spec (f a : L10) (hf : f.Tight) (ha : a.Tight) :
    Field_Equals.runW (f.toList ++ a.toList) = [if f.val = a.val then 1 else 0] := by
  simp only [L10.toList]
  unfold_run Field_Equals
  refine congrArg (fun x => [x]) ((Ind.beq rfl).congr ?_).ite
  rw [hf.val_inj ha]
  simp only [Nat.or_eq_zero_iff, xor_eq_zero_iff, L10.toList, List.cons.injEq, and_true, and_assoc]

theorem isGtOrEqPrimeMinusOrder_spec (f : L10) (hf : f.Tight) :
    Field_IsGtOrEqPrimeMinusOrder.runW f.toList = [if f.val ≥ P - N then 1 else 0] := by
  obtain ⟨t0, t1, t2, t3, t4, t5, t6, t7, t8, -⟩ := hf
  have h := kernel_steps_W Field_IsGtOrEqPrimeMinusOrder f.toList
  simp only [L10.toList, List.reverse_cons, List.reverse_nil, List.nil_append, List.cons_append] at h
  ir_steps h
  have hrun := h.out
  clear h
  -- limb by limb from the top: "greater so far" g and "equal so far" q
  have ⟨g3, q4⟩ := Ind.lex_step t8 (by decide) (Ind.lex_gt_top e0) (Ind.lex_eq_top e1) e2 e3 e4
  have ⟨g6, q7⟩ := Ind.lex_step t7 (by decide) g3 q4 e5 e6 e7
  have ⟨g9, q10⟩ := Ind.lex_step t6 (by decide) g6 q7 e8 e9 e10
  have ⟨g12, q13⟩ := Ind.lex_step t5 (by decide) g9 q10 e11 e12 e13
  have ⟨g15, q16⟩ := Ind.lex_step t4 (by decide) g12 q13 e14 e15 e16
  have ⟨g18, q19⟩ := Ind.lex_step t3 (by decide) g15 q16 e17 e18 e19
  have ⟨g21, q22⟩ := Ind.lex_step t2 (by decide) g18 q19 e20 e21 e22
  have ⟨g24, q25⟩ := Ind.lex_step t1 (by decide) g21 q22 e23 e24 e25
  rw [L10.val_eq, PmN_limbs]
  exact hrun.trans (congrArg (fun x => [x]) ((Ind.lex_ge t0 (by decide) g24 q25 e26 e27).ne_zero e28).ite)

theorem set_spec (f a : L10) : Field_Set.runW (f.toList ++ a.toList) = a.toList := by
  simp only [L10.toList]
  unfold_run Field_Set

theorem setInt_spec (f : L10) (ui : Nat) : Field_SetInt.runW (f.toList ++ [ui]) = [ui, 0, 0, 0, 0, 0, 0, 0, 0, 0] := by
  simp only [L10.toList]
  unfold_run Field_SetInt

theorem zero_spec (f : L10) : Field_Zero.runW f.toList = [0, 0, 0, 0, 0, 0, 0, 0, 0, 0] := by
  simp only [L10.toList]
  unfold_run Field_Zero

/-- every field kernel carries the translator's alias flag: tools/gotr (`aliasSafe()` in kernel.go)
    found no parameter limb read after the same receiver limb was written, which is what lets a
    call with the receiver as an argument (Mul, Square, Negate, Add on itself) be read with the
    value semantics above.  The flag is the translator's; Lean checks only that it is set. -/
theorem alias_safe : (fieldKernels.all fun k => k.aliasSafe) = true := by decide

example : (⟨2^26-1, 2^26-1, 2^26-1, 2^26-1, 2^26-1, 2^26-1, 2^26-1, 2^26-1, 2^26-1, 2^22-1⟩ : L10).MagLE 8 := by
  simp [L10.MagLE, LB, LB9]
example : (⟨1, 0, 0, 0, 0, 0, 0, 0, 0, 0⟩ : L10).Tight := by simp [L10.Tight]

/-- `FieldVal.SetByteSlice` (tools/gotr pass T8): the non-kernel wrapper around the `SetBytes` kernel,
    regenerated at value level -/
theorem setByteSlice_wrapper (f : Nat) (b : Secp.Spec.Bytes) (hb : b.length < 2^32) :
    Secp.Gen.Drivers.fieldSetByteSliceGen f b
      = (decide (Secp.Spec.beNat (b.take 32) ≥ Secp.Spec.P), Secp.Spec.beNat (b.take 32)) := by
  have hpad := Secp.Proofs.Buffers.pad_eq (b.take 32) (List.length_take_le 32 b)
  unfold Secp.Gen.Drivers.fieldSetByteSliceGen
  simp only [Secp.Proofs.Buffers.trunc_eq b hb] at hpad ⊢
  rw [hpad, Secp.Proofs.Bytes.beNat_leftPad]
  by_cases h : beNat (b.take 32) ≥ P <;> simp [h]

end Secp.Props.C05
