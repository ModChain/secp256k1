import Secp.Gen.Drivers
import Secp.Proofs.Buffers
import Secp.Proofs.ScalarMul
import Secp.Proofs.ScalarKernels
import Secp.Proofs.IRHelpers
import Secp.Proofs.FieldBridge
/-
  Props/C06 — scalar arithmetic modulo the group order is exact and always canonical.

  Every theorem except `inverse_spec` is about `Kernel.runW` (Go semantics) of a kernel in
  `Secp.Gen.ScalarIR`, REGENERATED from /repo/modnscalar.go on every check run.  Calls to the
  `constantTime*` helpers and to `accumulator96.Add` appear in those kernels as IR primitives
  (`Rsh32` as a plain shift); the first block of theorems says what the literal translation of
  each helper's own body computes, and `IRHelpers.ctEq_prim` … `accAdd_prim` that this is `evalW`
  of the primitive.  Input order of a kernel: receiver words, then each pointer parameter's
  words/bytes, then integer parameters.
  The small kernels are proved here from `Proofs/ScalarLemmas.lean` and `ScalarKernels.lean`; the
  reductions and `Mul2` are in `Proofs/ScalarMul.lean` / `ScalarReduce.lean`, the helper bodies in
  `Proofs/IRHelpers.lean`, the wrapper methods rest on `Proofs/Buffers.lean`.
-/
namespace Secp.Props.C06
open Secp.Spec Secp.IR Secp.Gen Secp.Limbs
open Secp.Gen.Bounds Secp.Proofs Secp.Proofs.IRRun Secp.Proofs.IRIndep Secp.Proofs.ScalarLemmas Secp.Proofs.ScalarKernels Secp.Radix

theorem ctEq_lit (a b : Nat) (ha : a < 2^32) (hb : b < 2^32) : CT_Eq_lit.runW [a, b] = [if a = b then 1 else 0] :=
  Secp.Proofs.IRHelpers.ctEq_lit a b ha hb
theorem ctNotEq_lit (a b : Nat) (ha : a < 2^32) (hb : b < 2^32) : CT_NotEq_lit.runW [a, b] = [if a ≠ b then 1 else 0] :=
  Secp.Proofs.IRHelpers.ctNotEq_lit a b ha hb
theorem ctLess_lit (a b : Nat) (ha : a < 2^32) (hb : b < 2^32) : CT_Less_lit.runW [a, b] = [if a < b then 1 else 0] :=
  Secp.Proofs.IRHelpers.ctLess_lit a b ha hb
theorem ctLessOrEq_lit (a b : Nat) (ha : a < 2^32) (hb : b < 2^32) : CT_LessOrEq_lit.runW [a, b] = [if a ≤ b then 1 else 0] :=
  Secp.Proofs.IRHelpers.ctLessOrEq_lit a b ha hb
theorem ctGreater_lit (a b : Nat) (ha : a < 2^32) (hb : b < 2^32) : CT_Greater_lit.runW [a, b] = [if a > b then 1 else 0] :=
  Secp.Proofs.IRHelpers.ctGreater_lit a b ha hb
theorem ctGreaterOrEq_lit (a b : Nat) (ha : a < 2^32) (hb : b < 2^32) : CT_GreaterOrEq_lit.runW [a, b] = [if a ≥ b then 1 else 0] :=
  Secp.Proofs.IRHelpers.ctGreaterOrEq_lit a b ha hb
theorem ctMin_lit (a b : Nat) (ha : a < 2^32) (hb : b < 2^32) : CT_Min_lit.runW [a, b] = [min a b] :=
  Secp.Proofs.IRHelpers.ctMin_lit a b ha hb
/-- accumulator96.Add adds exactly, modulo 2^96, whenever the high word of v is ≤ 2^32 − 2 -/
theorem acc96Add_lit (n0 n1 n2 v : Nat) (h0 : n0 < 2^32) (h1 : n1 < 2^32) (h2 : n2 < 2^32) (hv : v < 2^64 - 2^32) :
    ∃ m0 m1 m2, Acc96_Add_lit.runW [n0, n1, n2, v] = [m0, m1, m2] ∧ m0 < 2^32 ∧ m1 < 2^32 ∧ m2 < 2^32 ∧
      m0 + m1 * 2^32 + m2 * 2^64 = (n0 + n1 * 2^32 + n2 * 2^64 + v) % 2^96 :=
  Secp.Proofs.IRHelpers.acc96Add_lit n0 n1 n2 v h0 h1 h2 hv
theorem acc96Rsh32_lit (n0 n1 n2 : Nat) : Acc96_Rsh32_lit.runW [n0, n1, n2] = [n1, n2, 0] :=
  Secp.Proofs.IRHelpers.acc96Rsh32_lit n0 n1 n2

theorem overflows_spec (s : L8) (hs : s.U32) :
    Scalar_overflows.runW s.toList = [if s.val ≥ N then 1 else 0] := by
  run_W Scalar_overflows s.toList
  rw [← (overflows_chain hs e0 e1 e2 e3 e4 e5 e6 e7 e8 e9 e10 e11 e12 e13 e14 e15 e16).ite]
  exact hrun

theorem reduce256_spec (s : L8) (o : Nat) (hs : s.U32) (ho : o ≤ 1) :
    ∃ r : L8, Scalar_reduce256.runW (s.toList ++ [o]) = r.toList ∧ r.U32 ∧
      r.val = (s.val + o * (2^256 - N)) % 2^256 := by
  have hin : Within (s.toList ++ [o]) Scalar_reduce256_full_in :=
    (within_full hs.allLt).append ⟨⟨Nat.zero_le _, ho⟩, trivial⟩
  run_N Scalar_reduce256 _ with hin, Scalar_reduce256_full_mid_ok, Scalar_reduce256_full_out_ok
  obtain ⟨hval, hU⟩ := reduce256_chain (n := s) e0 e1 e2 e3 e4 e5 e6 e7 e8 e9 e10 e11 e12 e13 e14 e15
  refine ⟨⟨v1, v3, v5, v7, v9, v11, v13, v15⟩, hrun, hU, ?_⟩
  rw [← hval, Nat.add_mul_mod_self_right, Nat.mod_eq_of_lt hU.val_lt]

theorem setBytes_spec (s : L8) (b : List Nat) (hb : b.length = 32) (hlt : AllLt 256 b) :
    ∃ r : L8, ∃ ov : Nat, Scalar_SetBytes.runW (s.toList ++ b) = r.toList ++ [ov] ∧ r.Canon ∧
      r.val = bytesVal b % N ∧ ov = (if bytesVal b ≥ N then 1 else 0) := by
  -- the receiver is only written: its words are replaced by zeros, so that nothing is asked of `s`
  rw [runW_prefix Scalar_SetBytes s.toList [0, 0, 0, 0, 0, 0, 0, 0] b (hb ▸ readsSet)]
  obtain ⟨b0, b1, b2, b3, b4, b5, b6, b7, b8, b9, b10, b11, b12, b13, b14, b15, b16, b17, b18, b19, b20, b21, b22, b23, b24, b25, b26, b27, b28, b29, b30, b31, rfl⟩ := list32 hb
  have hin : Within ([0, 0, 0, 0, 0, 0, 0, 0] ++ [b0, b1, b2, b3, b4, b5, b6, b7, b8, b9, b10, b11, b12, b13,
      b14, b15, b16, b17, b18, b19, b20, b21, b22, b23, b24, b25, b26, b27, b28, b29, b30, b31])
      Scalar_SetBytes_full_in := (within_zeros 8 _).append (within_full (W := 255) hlt)
  simp only [AllLt, List.mem_cons, List.not_mem_nil, or_false, forall_eq_or_imp, forall_eq] at hlt
  obtain ⟨l0, l1, l2, l3, l4, l5, l6, l7, l8, l9, l10, l11, l12, l13, l14, l15, l16, l17, l18, l19, l20, l21,
    l22, l23, l24, l25, l26, l27, l28, l29, l30, l31⟩ := hlt
  run_N Scalar_SetBytes _ with hin, Scalar_SetBytes_full_mid_ok, Scalar_SetBytes_full_out_ok
  refine ⟨⟨v26, v28, v30, v32, v34, v36, v38, v40⟩, v24, hrun, ?_⟩
  obtain ⟨w0, u0⟩ := word_of_bytes e0 l31 l30 l29 l28
  obtain ⟨w1, u1⟩ := word_of_bytes e1 l27 l26 l25 l24
  obtain ⟨w2, u2⟩ := word_of_bytes e2 l23 l22 l21 l20
  obtain ⟨w3, u3⟩ := word_of_bytes e3 l19 l18 l17 l16
  obtain ⟨w4, u4⟩ := word_of_bytes e4 l15 l14 l13 l12
  obtain ⟨w5, u5⟩ := word_of_bytes e5 l11 l10 l9 l8
  obtain ⟨w6, u6⟩ := word_of_bytes e6 l7 l6 l5 l4
  obtain ⟨w7, u7⟩ := word_of_bytes e7 l3 l2 l1 l0
  rw [bytesVal_words, ← w0, ← w1, ← w2, ← w3, ← w4, ← w5, ← w6, ← w7]
  -- v24 = [W ≥ N]: the inlined `overflows`
  have hWU : (⟨v0, v1, v2, v3, v4, v5, v6, v7⟩ : L8).U32 := ⟨u0, u1, u2, u3, u4, u5, u6, u7⟩
  have hov := overflows_chain hWU e8 e9 e10 e11 e12 e13 e14 e15 e16 e17 e18 e19 e20 e21 e22 e23 e24
  -- R + c'·2^256 = W + v24·(2^256 − N): the inlined `reduce256`
  obtain ⟨hred, hRU⟩ := reduce256_chain (n := ⟨v0, v1, v2, v3, v4, v5, v6, v7⟩)
    e25 e26 e27 e28 e29 e30 e31 e32 e33 e34 e35 e36 e37 e38 e39 e40
  have h := cond_sub (c := 0) N_compl (Nat.lt_trans hWU.val_lt (by decide)) hRU.val_lt
    (by rw [Nat.zero_mul, Nat.add_zero]) hov (by rw [Nat.zero_add]; exact hred)
  exact ⟨⟨hRU, h.2⟩, eq_mod_of_add_mul h.1 h.2, hov.ite⟩

theorem putBytes_spec (s : L8) (b : List Nat) (hb : b.length = 32) (hs : s.U32) :
    ∃ o : List Nat, Scalar_PutBytesUnchecked.runW (s.toList ++ b) = o ∧ o.length = 32 ∧ AllLt 256 o ∧
      bytesVal o = s.val := by
  obtain ⟨b0, b1, b2, b3, b4, b5, b6, b7, b8, b9, b10, b11, b12, b13, b14, b15, b16, b17, b18, b19, b20, b21, b22, b23, b24, b25, b26, b27, b28, b29, b30, b31, rfl⟩ := list32 hb
  -- shifts and byte conversions only: nothing can wrap, the Go semantics is read directly
  run_W Scalar_PutBytesUnchecked (s.toList ++ [b0, b1, b2, b3, b4, b5, b6, b7, b8, b9, b10, b11, b12, b13, b14,
    b15, b16, b17, b18, b19, b20, b21, b22, b23, b24, b25, b26, b27, b28, b29, b30, b31])
  obtain ⟨h0, h1, h2, h3, h4, h5, h6, h7⟩ := hs
  obtain ⟨s0, l0, l1, l2, l3⟩ := word_split h0 e0 e1 e2 e3
  obtain ⟨s1, l4, l5, l6, l7⟩ := word_split h1 e4 e5 e6 e7
  obtain ⟨s2, l8, l9, l10, l11⟩ := word_split h2 e8 e9 e10 e11
  obtain ⟨s3, l12, l13, l14, l15⟩ := word_split h3 e12 e13 e14 e15
  obtain ⟨s4, l16, l17, l18, l19⟩ := word_split h4 e16 e17 e18 e19
  obtain ⟨s5, l20, l21, l22, l23⟩ := word_split h5 e20 e21 e22 e23
  obtain ⟨s6, l24, l25, l26, l27⟩ := word_split h6 e24 e25 e26 e27
  obtain ⟨s7, l28, l29, l30, l31⟩ := word_split h7 e28 e29 e30 e31
  refine ⟨[v31, v30, v29, v28, v27, v26, v25, v24, v23, v22, v21, v20, v19, v18, v17, v16, v15, v14, v13, v12,
    v11, v10, v9, v8, v7, v6, v5, v4, v3, v2, v1, v0], hrun, rfl, ?_, ?_⟩
  · simp only [AllLt, List.forall_mem_cons, List.not_mem_nil, false_imp_iff, implies_true, and_true]
    exact ⟨l31, l30, l29, l28, l27, l26, l25, l24, l23, l22, l21, l20, l19, l18, l17, l16, l15, l14, l13, l12,
      l11, l10, l9, l8, l7, l6, l5, l4, l3, l2, l1, l0⟩
  · rw [bytesVal_words, ← s0, ← s1, ← s2, ← s3, ← s4, ← s5, ← s6, ← s7]

theorem add2_spec (s a b : L8) (ha : a.Canon) (hb : b.Canon) :
    ∃ r : L8, Scalar_Add2.runW (s.toList ++ a.toList ++ b.toList) = r.toList ∧ r.Canon ∧
      r.val = (a.val + b.val) % N := by
  rw [List.append_assoc, runW_prefix Scalar_Add2 s.toList [0, 0, 0, 0, 0, 0, 0, 0] (a.toList ++ b.toList) readsAdd2]
  have hin : Within ([0, 0, 0, 0, 0, 0, 0, 0] ++ (a.toList ++ b.toList)) Scalar_Add2_full_in :=
    (within_zeros 8 _).append ((within_full ha.1.allLt).append (within_full hb.1.allLt))
  run_N Scalar_Add2 _ with hin, Scalar_Add2_full_mid_ok, Scalar_Add2_full_out_ok
  refine ⟨⟨v35, v37, v39, v41, v43, v45, v47, v49⟩, hrun, ?_⟩
  -- a + b = W + c·2^256 with W the words v1, v3, .., v15 and c = v14 / 2^32
  obtain ⟨hsum, hWU⟩ := (chain8 e1 e2 e3 e4 e5 e6 e7 e8 e9 e10 e11 e12 e13 e14 e15).imp_left
    (·.trans (e0 ▸ a.val_add b))
  -- v32 = [W ≥ N]: the inlined `overflows`
  have hov := overflows_chain hWU e16 e17 e18 e19 e20 e21 e22 e23 e24 e25 e26 e27 e28 e29 e30 e31 e32
  -- R + c'·2^256 = W + (c + v32)·(2^256 − N): the inlined `reduce256`
  obtain ⟨hred, hRU⟩ := reduce256_chain (n := ⟨v1, v3, v5, v7, v9, v11, v13, v15⟩)
    e34 e35 e36 e37 e38 e39 e40 e41 e42 e43 e44 e45 e46 e47 e48 e49
  -- 50 SSA values: `hW.ub 35` bounds v14
  have hc : v14 / 2 ^ 32 < 2 ^ 32 :=
    Nat.lt_of_le_of_lt (Nat.div_le_div_right (c := 2 ^ 32) (hW.ub 35)) (by decide)
  rw [Nat.mod_eq_of_lt hc] at e33
  rw [e33] at hred
  have h := cond_sub N_compl (Nat.add_lt_add ha.2 hb.2) hRU.val_lt hsum hov hred
  exact ⟨⟨hRU, h.2⟩, eq_mod_of_add_mul h.1 h.2⟩

theorem negate_spec (s a : L8) (ha : a.Canon) :
    ∃ r : L8, Scalar_NegateVal.runW (s.toList ++ a.toList) = r.toList ∧ r.Canon ∧ r.val = (N - a.val) % N := by
  rw [runW_prefix Scalar_NegateVal s.toList [0, 0, 0, 0, 0, 0, 0, 0] a.toList readsNeg]
  have hin : Within ([0, 0, 0, 0, 0, 0, 0, 0] ++ a.toList) Scalar_NegateVal_full_in :=
    (within_zeros 8 _).append (within_full ha.1.allLt)
  run_N Scalar_NegateVal _ with hin, Scalar_NegateVal_full_mid_ok, Scalar_NegateVal_full_out_ok
  refine ⟨⟨v3, v5, v7, v9, v11, v13, v15, v17⟩, hrun, ?_⟩
  -- the Go code does not branch: it masks with v1 = −[bits ≠ 0]; the cases are the mask's two values
  by_cases hz : v0 = 0
  · -- a = 0: the mask v1 is 0 and so is every word
    have hm : v1 = 0 := by rw [e1, hz]; rfl
    subst hm
    simp only [Nat.and_zero, Nat.zero_mod] at e3 e5 e7 e9 e11 e13 e15 e17
    subst e3 e5 e7 e9 e11 e13 e15 e17
    rw [(L8.or_eq_zero a).1 (e0 ▸ hz)]
    exact ⟨⟨⟨by decide, by decide, by decide, by decide, by decide, by decide, by decide, by decide⟩,
      by decide⟩, by decide⟩
  · -- a ≠ 0: the mask is all ones, the words are those of N + (2^256 − a), carry dropped
    have hm : v1 = 4294967295 := by
      have : (v0 != 0) = true := by simpa using hz
      rw [e1, this]; rfl
    subst hm
    obtain ⟨c, hU⟩ := chain8 (neg_word_mask e3) e4 (neg_word_mask e5) e6 (neg_word_mask e7) e8 (neg_word_mask e9) e10 (neg_word_mask e11) e12
      (neg_word_mask e13) e14 (neg_word_mask e15) e16 (neg_word_mask e17)
    have h := neg_final (by decide) ha.2 (fun h0 => hz (e0.trans ((L8.or_eq_zero a).2 h0))) hU.val_lt
      (c.trans (e2 ▸ a.val_neg ha.1))
    exact ⟨⟨hU, h.1⟩, h.2⟩

theorem isOverHalfOrder_spec (s : L8) (hs : s.U32) :
    Scalar_IsOverHalfOrder.runW s.toList = [if s.val > halfN then 1 else 0] := by
  run_W Scalar_IsOverHalfOrder s.toList
  obtain ⟨h0, h1, h2, h3, h4, h5, h6, -⟩ := hs
  -- word by word from the top: "equal so far" i, "greater so far" g; the words 6, 5, 4 of halfN
  -- are 2^32 − 1 and cannot be exceeded
  have i4 := Ind.lex_eq h4 (by decide) (Ind.lex_eq h5 (by decide)
    (Ind.lex_eq h6 (by decide) (Ind.lex_eq_top e1) e2) e3) e4
  have g4 := Ind.lex_gt_max h4 rfl (Ind.lex_gt_max h5 rfl (Ind.lex_gt_max h6 rfl (Ind.lex_gt_top e0)))
  have ⟨i6, i7⟩ := Ind.lex_step h3 (by decide) g4 i4 e5 e6 e7
  have ⟨i9, i10⟩ := Ind.lex_step h2 (by decide) i6 i7 e8 e9 e10
  have ⟨i12, i13⟩ := Ind.lex_step h1 (by decide) i9 i10 e11 e12 e13
  rw [L8.val_eq, halfN_words, L8.toList]
  exact hrun.trans (congrArg (fun x => [x]) ((Ind.lex_gt h0 (by decide) i12 i13 e14 e15).ne_zero e16).ite)

theorem isZero_spec (s : L8) (hs : s.U32) :
    Scalar_IsZero.runW s.toList = [if s.val = 0 then 1 else 0] ∧
    Scalar_IsZeroBit.runW s.toList = [if s.val = 0 then 1 else 0] := by
  constructor
  · run_W Scalar_IsZero s.toList
    rw [← ((Ind.beq e1).congr (e0 ▸ L8.or_eq_zero s)).ite]
    exact hrun
  · run_W Scalar_IsZeroBit s.toList
    rw [← ((Ind.beq e1).congr (e0 ▸ L8.or_eq_zero s)).ite]
    exact hrun

theorem isOdd_spec (s : L8) (hs : s.U32) : Scalar_IsOdd.runW s.toList = [s.val % 2] := by
  run_W Scalar_IsOdd s.toList
  have hv : s.val % 2 = s.n0 % 2 := by simp only [L8.val]; omega
  rw [hv, ← IRHelpers.b2n_odd, ← e0]
  exact hrun

theorem equals_spec (s a : L8) (hs : s.U32) (ha : a.U32) :
    Scalar_Equals.runW (s.toList ++ a.toList) = [if s.val = a.val then 1 else 0] := by
  run_W Scalar_Equals (s.toList ++ a.toList)
  have key : v0 = 0 ↔ s.val = a.val := by
    rw [hs.val_inj ha, e0]
    simp only [Nat.or_eq_zero_iff, IRHelpers.xor_eq_zero_iff, L8.toList, List.cons.injEq, and_true, and_assoc]
  rw [← ((Ind.beq e1).congr key).ite]
  exact hrun

/-- the 385-bit reduction: for 13 words t0..t12 denoting a value below 2^385 (the function's
    documented domain; the statement is FALSE for t12 ≥ 2^31, see DESIGN.md) the result is
    canonical and congruent to Σ tᵢ·2^(32i) modulo N -/
theorem reduce385_spec (s : L8) (t : List Nat) (ht : t.length = 13) (hlt : AllLt (2^32) t)
    (h385 : bytesVal32 t < 2^385) :
    ∃ r : L8, Scalar_reduce385.runW (s.toList ++ t) = r.toList ∧ r.Canon ∧
      r.val = (bytesVal32 t) % N :=
  Secp.Proofs.ScalarMul.reduce385_spec s t ht hlt h385

theorem reduce512_spec (s : L8) (t : List Nat) (ht : t.length = 16) (hlt : AllLt (2^32) t) :
    ∃ r : L8, Scalar_reduce512.runW (s.toList ++ t) = r.toList ∧ r.Canon ∧
      r.val = (bytesVal32 t) % N :=
  Secp.Proofs.ScalarMul.reduce512_spec s t ht hlt

/-- multiplication: for ALL 256-bit operands (not only canonical ones) the result is canonical
    and equals the product modulo N -/
theorem mul2_spec (s a b : L8) (ha : a.U32) (hb : b.U32) :
    ∃ r : L8, Scalar_Mul2.runW (s.toList ++ a.toList ++ b.toList) = r.toList ∧ r.Canon ∧
      r.val = (a.val * b.val) % N :=
  Secp.Proofs.ScalarMul.mul2_spec s a b ha hb

/-- inversion (`big.Int.ModInverse` then decode, modelled as Fermat in `Spec.ninv`): an inverse for
    every non-zero residue, and 0 ↦ 0 -/
theorem inverse_spec (a : Nat) (ha : a % N ≠ 0) : (ninv a * a) % N = 1 ∧ ninv a < N := by
  have hne : (a : ZMod N) ≠ 0 := by
    intro h
    have := (mod_N_eq_iff a 0).2 (by simpa using h)
    exact ha (by simpa using this)
  refine ⟨?_, ninv_lt a⟩
  apply eq_of_cast_eq_N (Nat.mod_lt _ N_pos) (by have := two_lt_N; omega)
  show ((nmul (ninv a) a : Nat) : ZMod N) = ((1 : Nat) : ZMod N)
  rw [nmul_cast, ninv_cast, Nat.cast_one, inv_mul_cancel₀ hne]
theorem inverse_zero : ninv 0 = 0 := by decide +kernel

theorem alias_safe : (scalarKernels.all fun k => k.aliasSafe) = true := by decide

example : (⟨1, 0, 0, 0, 0, 0, 0, 0⟩ : L8).Canon := by
  refine ⟨by simp [L8.U32], ?_⟩; simp [L8.val]; decide

/-! ### The non-kernel wrapper methods (tools/gotr pass T8)

`Mul`, `Add`, `Negate`, `Square`, `SquareVal`, `Bytes`, `SetByteSlice`, `InverseValNonConst`, `InverseNonConst` are not limb
kernels (they delegate to the kernels above); they are REGENERATED at value level on every run and proved equal to the
primitives every model uses for them. -/

theorem mul_wrapper (s v : Nat) : Secp.Gen.Drivers.scalarMul s v = Secp.Spec.nmul s v := rfl
theorem add_wrapper (s v : Nat) : Secp.Gen.Drivers.scalarAdd s v = Secp.Spec.nadd s v := rfl
theorem negate_wrapper (s : Nat) : Secp.Gen.Drivers.scalarNegate s = Secp.Spec.nneg s := rfl
theorem square_wrapper (s : Nat) : Secp.Gen.Drivers.scalarSquare s = Secp.Spec.nmul s s := rfl
theorem squareVal_wrapper (s v : Nat) : Secp.Gen.Drivers.scalarSquareVal s v = Secp.Spec.nmul v v := rfl
theorem bytes_wrapper (s : Nat) : Secp.Gen.Drivers.scalarBytes s = Secp.Spec.be32 s := by
  unfold Secp.Gen.Drivers.scalarBytes
  simp only [Secp.Proofs.Buffers.write_full _ _ (Secp.Proofs.Bytes.be32_length s)]

/-- `ModNScalar.SetByteSlice` (truncate to 32 bytes, left-pad, load, overflow flag) regenerated = the model's
    `scalarSetByteSlice` for every byte string shorter than 2^32 (the uint32 conversion of the length) -/
theorem setByteSlice_wrapper (s : Nat) (b : Secp.Spec.Bytes) (hb : b.length < 2^32) :
    Secp.Gen.Drivers.scalarSetByteSliceGen s b = ((Secp.Model.scalarSetByteSlice b).2, (Secp.Model.scalarSetByteSlice b).1) := by
  have hc := List.length_take_le 32 b
  have hpad := Secp.Proofs.Buffers.pad_eq (b.take 32) hc
  unfold Secp.Gen.Drivers.scalarSetByteSliceGen
  simp only [Secp.Proofs.Buffers.trunc_eq b hb] at hpad ⊢
  rw [hpad]
  unfold Secp.Model.scalarSetByteSlice
  simp only [Secp.Proofs.Buffers.beNat_leftPad_take _ hc]
  by_cases h : beNat (b.take 32) ≥ N <;> simp [h]

/-- `InverseValNonConst` (through math/big's ModInverse for the prime modulus N) regenerated = `ninv` -/
theorem inverseValNonConst_wrapper (s v : Nat) (hv : v < Secp.Spec.N) :
    Secp.Gen.Drivers.scalarInverseValNonConst s v = Secp.Spec.ninv v := by
  unfold Secp.Gen.Drivers.scalarInverseValNonConst
  simp only [Secp.Proofs.Bytes.beNat_be32_of_lt (Nat.lt_trans hv Secp.Proofs.Bytes.N_lt_pow)]
  by_cases h0 : (v % N == 0) = true
  · rw [if_pos h0, Secp.Proofs.Buffers.scalarSetByteSlice_minBytes hv]
    have hz : v = 0 := by
      have := beq_iff_eq.1 h0
      rwa [Nat.mod_eq_of_lt hv] at this
    subst hz
    exact inverse_zero.symm
  · rw [if_neg h0, Secp.Proofs.Buffers.scalarSetByteSlice_minBytes (Secp.Proofs.ninv_lt v)]

theorem inverseNonConst_wrapper (s : Nat) : Secp.Gen.Drivers.scalarInverseNonConst s = Secp.Spec.ninv s := rfl

end Secp.Props.C06
