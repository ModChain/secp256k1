import Secp.Proofs.DriversCompact
import Secp.Proofs.DriversRecover
import Secp.Proofs.Ecdsa
import Secp.Proofs.Total
import Secp.Props.C03
import Secp.Proofs.AbsChecked
import Secp.Gen.BytesProg
import Secp.Proofs.BytesPeel
/-
  Props/C07 — public-key recovery returns the signer's key in every signature form.
  Model: `recoverM`, `exportM`, `exportCompactM`, `parseCompactM`.  Spec: `ecdsaRecover` (SEC1 §4.1.6).
  Regenerated: `Secp.Gen.Drivers.recoverPublicKey`, `bruteforceRecoveryCode`, `exportGen`, `exportCompact`,
  `recoverCompact` and `Secp.Gen.BytesProg.parseCompact` (signature.go).
  The lemmas the theorems share are in `Proofs/Ecdsa.lean` (the model), `Proofs/DriversRecover.lean` and
  `Proofs/DriversCompact.lean` (the regenerated code); `Proofs/BytesPeel.lean` is the step-by-step comparison of a
  regenerated parser with its model.
-/
namespace Secp.Props.C07
open Secp.Spec Secp.Model Secp.Proofs Secp.Proofs.Ecdsa

/-- for every hash, every `r < N` and code below 4, and ANY `s`, recovery succeeds exactly when the textbook procedure
    does, with the same key: neither `0 < r` nor a bound on `s` is needed, `ecdsaRecover` and the model reject or accept
    such inputs alike -/
theorem recover_iff (hp : PointSpec) (h : Bytes) (r s v : Nat) (hr : r < N) (hv : v < 4) :
    (match recoverM h r s v with | .ok q => some q | .error _ => none) = ecdsaRecover h r s v := by
  have hNP := N_lt_P
  have hvff : ¬ v = 0xff := by omega
  have hodd : decide (v % 2 = 1) = (v % 2 == 1) := by
    rw [Bool.eq_iff_iff]; simp
  refine (toOption_eq _).trans ?_
  unfold recoverM ecdsaRecover
  simp only [hvff, if_false, bit2_iff v hv, bit1_iff v hv, hashScalar_eq, hodd]
  have hstep : (if v / 2 % 2 = 1 then
        (if r ≥ P - N then (Except.error RecErr.ErrSigOverflowsPrime : Except RecErr Nat)
         else .ok (r + N)) else .ok r) =
      if (if v / 2 % 2 = 1 then r + N else r) ≥ P then .error .ErrSigOverflowsPrime
      else .ok (if v / 2 % 2 = 1 then r + N else r) := by
    split_ifs <;> first | rfl | omega
  rw [hstep]
  generalize (if v / 2 % 2 = 1 then r + N else r) = x
  by_cases hx : x ≥ P
  · simp only [hx, if_true]
    rfl
  · simp only [hx, if_false]
    have hx' : x < P := by omega
    rw [hp.decompress x _ hx', liftX_eq x _ hx', Nat.mod_eq_of_lt hx']
    cases hd : decompressY x (v % 2 == 1) with
    | none => rfl
    | some y =>
      obtain ⟨hy, hc, -⟩ := (PubKey.decompressY_iff x y _).1 hd
      simp only [Option.map_some]
      exact recover_tail hp x y _ _ ⟨hx', hy, hc⟩ (nneg_lt _) (nmul_lt _ _)

/-- `RecoverPublicKey` on a signature built without a code is the documented API-misuse panic, nothing else panics -/
theorem recover_panic_iff (h : Bytes) (r s v : Nat) : recoverM h r s v = .error .Panic ↔ v = 0xff :=
  Secp.Proofs.Total.recover_panic_iff h r s v

/-- Export normalises s and the code together: high s ↦ (N − s, code xor 1), low s unchanged -/
theorem export_spec (r s v : Nat) (hs : s < N) :
    exportM r s v = if s > halfN then (r, N - s, v ^^^ 1) else (r, s, v) :=
  Secp.Proofs.Ecdsa.export_spec r s v hs

/-- both compact layouts carry exactly Export's (r, s, code) -/
theorem exportCompact_spec (r s v off : Nat) (first : Bool) :
    exportCompactM r s v first off =
      (let e := exportM r s v
       if first then UInt8.ofNat ((e.2.2 + off) % 256) :: be32 e.1 ++ be32 e.2.1
       else be32 e.1 ++ be32 e.2.1 ++ [UInt8.ofNat ((e.2.2 + off) % 256)]) := rfl

/-- compact parse ∘ export (header offset 27 or 31) returns Export's triple, for every scalar pair in range -/
theorem parse_exportCompact (r s v : Nat) (comp : Bool) (hr0 : 0 < r) (hr : r < N) (hs0 : 0 < s) (hs : s < N) (hv : v < 4) :
    parseCompactM (exportCompactM r s v true (if comp then 31 else 27)) =
      .ok ((exportM r s v).1, (exportM r s v).2.1, (exportM r s v).2.2, comp) := by
  obtain ⟨s', v', he, hs0', hs', hv'⟩ := export_cases r s v hs0 hs hv
  unfold exportCompactM
  rw [he]
  simp only [if_true]
  obtain ⟨c1, c2, c3, c4⟩ := code_bits v' comp hv'
  have hcn : (UInt8.ofNat ((v' + (if comp then 31 else 27)) % 256)).toNat =
      v' + (if comp then 31 else 27) := by
    rw [UInt8.toNat_ofNat']
    exact c1
  rw [List.cons_append, parseCompactM_cons _ (be32 r) (be32 s') (Bytes.be32_length r) (Bytes.be32_length s') r s'
    (Buffers.scalarSetByteSlice_be32_of_lt_N r hr) (Buffers.scalarSetByteSlice_be32_of_lt_N s' hs') (by omega) (by omega)
    (by rw [hcn]; exact c2)]
  rw [hcn, c3, c4]

theorem recover_iff_unconditional (h : Bytes) (r s v : Nat) (hr0 : 0 < r) (hr : r < N) (hs : s < N) (hv : v < 4) :
    (match recoverM h r s v with | .ok q => some q | .error _ => none) = ecdsaRecover h r s v :=
  recover_iff Secp.Props.C03.pointSpec h r s v hr hv

/-- Limb level of this property's own functions (as `C01.sign_field_arithmetic_exact`): the regenerated sliced field
    programs of `RecoverPublicKey` (r+n handling, DecompressY, the normalisations before the point is built,
    infinity test, ToAffine) pass the abstract interpreter on every path. -/
theorem recover_field_arithmetic_exact :
    Secp.Proofs.Slices.entriesOK ["github.com/ModChain/secp256k1.Signature.RecoverPublicKey", "github.com/ModChain/secp256k1.RecoverCompact", "github.com/ModChain/secp256k1.Signature.BruteforceRecoveryCode", "github.com/ModChain/secp256k1.modNScalarToField"] = true :=
  open Secp.Gen.Slices in
  Secp.Proofs.AbsChecked.entriesOK_of_mem
    [s_Signature_RecoverPublicKey, s_RecoverCompact, s_Signature_BruteforceRecoveryCode, s_modNScalarToField]
    (by simp [allSlices])

/-- the statement-by-statement translation of `ParseCompactSignature` (length check, header range 27..34, `- 27` on the byte,
    compressed flag `&& 4`, recovery code `&& 3`, the two scalar decodings with their overflow / zero checks, the flag that
    travels with every error) never panics and is the hand-written model `parseCompactM` used by the theorems above -/
theorem parseCompact_regenerated (b : Bytes) :
    Secp.Gen.BytesProg.parseCompact b = Secp.Proofs.BytesProgSig.ofExcept (parseCompactM b) := by
  unfold Secp.Gen.BytesProg.parseCompact Secp.Model.parseCompactM
  simp only [apply_ite Secp.Proofs.BytesProgSig.ofExcept, Secp.Proofs.BytesProgSig.ofExcept_ok, Secp.Proofs.BytesProgSig.ofExcept_error]
  repeat peel_sig

/-- `Signature.Export` regenerated = `exportM` (r below 2^256, which every scalar is; no bound on s is needed) -/
theorem export_regenerated (r s v : Nat) (hr : r < 2 ^ 256) : Secp.Gen.Drivers.exportGen (r, s, v) = exportM r s v :=
  Secp.Proofs.FrontExport.export_regenerated r s v hr

theorem exportCompact_regenerated (r s v off : Nat) (first : Bool) :
    Secp.Gen.Drivers.exportCompact (r, s, v) first off = exportCompactM r s v first off :=
  Secp.Proofs.DriversCompact.exportCompact_regenerated r s v off first

/-- `RecoverCompact` regenerated: the parser followed by `RecoverPublicKey`, flag passed through -/
theorem recoverCompact_front (sig h : Bytes) :
    Secp.Gen.Drivers.recoverCompact sig h =
      (match parseCompactM sig with
       | .error (e, _) => DR.err e
       | .ok (r, s, c, comp) =>
         match Secp.Gen.Drivers.recoverPublicKey (r, s, c) h with
         | .ok pk => DR.ok (pk, comp)
         | .err e => DR.err e | .panic => DR.panic | .fuel => DR.fuel | .undef => DR.undef) := by
  unfold Secp.Gen.Drivers.recoverCompact
  cases parseCompactM sig with
  | error e => rfl
  | ok t =>
    obtain ⟨r, s, c, comp⟩ := t
    simp only []
    cases Secp.Gen.Drivers.recoverPublicKey (r, s, c) h <;> rfl

/-- `Signature.RecoverPublicKey` (signature.go) regenerated — the panic on a missing code, the overflow-bit branch with
    its r < P−N guard, `DecompressY`, the two scalar multiplications, the infinity check — = `recoverM`, for every
    r < N, s, code and hash -/
theorem recoverPublicKey_regenerated (r s v : Nat) (h : Bytes) (hr : r < N) :
    Secp.Gen.Drivers.recoverPublicKey (r, s, v) h =
      (match recoverM h r s v with
       | .ok p => DR.ok p
       | .error .Panic => DR.panic
       | .error .ErrSigOverflowsPrime => DR.err SigErr.ErrSigOverflowsPrime
       | .error .ErrPointNotOnCurve => DR.err SigErr.ErrPointNotOnCurve) :=
  Secp.Proofs.DriversRecover.recoverPublicKey_regenerated r s v h hr

/-- `Signature.BruteforceRecoveryCode` regenerated: it always terminates normally, finds the FIRST code 0..3 whose
    recovery yields the key (overflow codes included), leaves that code — or 0xff — in the object, and does not depend
    on the code the object held before -/
theorem bruteforce_regenerated (r s v : Nat) (h : Bytes) (Q : Nat × Nat) (hr : r < N) :
    Secp.Gen.Drivers.bruteforceRecoveryCode (r, s, v) h Q =
      DR.ok ((bruteforceM h r s Q).1, (r, s, (bruteforceM h r s Q).2)) :=
  Secp.Proofs.DriversBrute.bruteforce_regenerated' r s v h Q hr

end Secp.Props.C07
