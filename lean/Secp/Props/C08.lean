import Secp.Gen.Drivers
import Secp.Proofs.PubKey
import Secp.Proofs.AbsChecked
import Secp.Gen.BytesProg
import Secp.Proofs.BytesPeel
import Secp.Proofs.BytesBuild
/-
  Props/C08 — public-key parsing accepts exactly the valid encodings and round-trips.
  Model: `Secp.Model.parsePubKey`, `serializeCompressed/Uncompressed`,
  `schnorrParsePubKey` (hand-written mirrors of pubkey.go and schnorr/pubkey.go).
  Specification: `Secp.Spec.ValidSEC1`.  Regenerated: `Secp.Gen.BytesProg.parsePubKey`,
  `Secp.Gen.BytesBuild.serializeCompressed/Uncompressed`, `Secp.Gen.Drivers.schnorrParsePubKeyGen`.
  The lemmas the theorems share are in `Proofs/PubKey.lean`; the regenerated parser and builders are compared with
  the models through `Proofs/BytesPeel.lean` and `BytesBuild.lean`.
-/
namespace Secp.Props.C08
open Secp.Spec Secp.Model Secp.Proofs.PubKey Secp.Proofs.Bytes

theorem parsePubKey_no_panic (b : Bytes) : parsePubKey b ≠ .panic :=
  Secp.Proofs.PubKey.parsePubKey_no_panic b

/-- accepted ⇔ valid SEC1 encoding of that very point -/
theorem parse_iff (b : Bytes) (x y : Nat) : parsePubKey b = .ok (x, y) ↔ ValidSEC1 b x y :=
  ⟨valid_of_parse b x y, parse_of_valid b x y⟩

theorem parse_on_curve (b : Bytes) (x y : Nat) (h : parsePubKey b = .ok (x, y)) : OnCurve x y :=
  ((parse_iff b x y).1 h).1

/-- each rejection names a rule the input really violates -/
theorem parse_err_sound (b : Bytes) (e : PubErr) (h : parsePubKey b = .err e) : PubViolates b e := by
  induction b using length_cases with
  | unc f t ht =>
    rw [parse65_eq f t ht] at h
    split_ifs at h with h1 h2 h3 h4 h5 <;> cases h
    · simpa [PubViolates, ht] using h1
    · simpa [PubViolates, ht] using h2
    · simpa [PubViolates, ht] using h3
    · have e2 := Nat.mod_two_eq_zero_or_one (beNat (List.drop 32 t))
      rcases h4 with ⟨rfl | rfl, hp⟩ <;> rcases e2 with e | e <;> simp_all [PubViolates]
    · simpa [PubViolates, ht, OnCurve, isOnCurveM_iff] using fun _ _ => h5
  | cmp f t ht =>
    rw [parse33_eq f t ht] at h
    have hX : t.take 32 = t := List.take_of_length_le (by omega)
    split_ifs at h with h1 h2
    · cases h; simpa [PubViolates, ht] using h1
    · cases h; simpa [PubViolates, ht, hX] using h2
    · cases hd : decompressY (beNat t) (f == 0x03) with
      | some y' => rw [hd] at h; cases h
      | none =>
        rw [hd] at h; cases h
        simpa [PubViolates, ht, hX, OnCurve] using fun _ y hy hc => (decompressY_none_iff _ _).1 hd ⟨y, hy, hc⟩
  | other b h65 h33 =>
    rw [parse_other b h65 h33] at h
    cases h
    exact ⟨h33, h65⟩

/-- serialise then parse gives an equal key (both forms) -/
theorem parse_serialize_compressed (x y : Nat) (h : OnCurve x y) :
    parsePubKey (serializeCompressed x y) = .ok (x, y) :=
  parse33_of x y h

theorem parse_serialize_uncompressed (x y : Nat) (h : OnCurve x y) :
    parsePubKey (serializeUncompressed x y) = .ok (x, y) := parse65_of _ x y h (Or.inl rfl)

/-- canonical inputs are reproduced byte for byte -/
theorem serialize_parse_compressed (b : Bytes) (x y : Nat) (hb : b.length = 33)
    (h : parsePubKey b = .ok (x, y)) : serializeCompressed x y = b := by
  obtain ⟨_, rfl | rfl | rfl⟩ := valid_of_parse b x y h
  iterate 2 (rw [List.cons_append, List.length_cons, List.length_append, be32_length, be32_length] at hb; cases hb)
  rfl

theorem serialize_parse_uncompressed (b : Bytes) (x y : Nat) (hb : b[0]? = some 0x04)
    (h : parsePubKey b = .ok (x, y)) : serializeUncompressed x y = b := by
  obtain ⟨_, rfl | rfl | rfl⟩ := valid_of_parse b x y h
  · rfl
  · exact (tag_ne (by decide) (by decide) hb).elim
  · exact (tag_ne (by decide) (by decide) hb).elim

/-- hybrid inputs re-serialise to the canonical uncompressed form of the same point -/
theorem serialize_parse_hybrid (b : Bytes) (x y : Nat) (hb : b[0]? = some 0x06 ∨ b[0]? = some 0x07)
    (h : parsePubKey b = .ok (x, y)) : serializeUncompressed x y = (0x04 : UInt8) :: b.drop 1 := by
  obtain ⟨_, rfl | rfl | rfl⟩ := valid_of_parse b x y h
  · rcases hb with hb | hb <;> exact absurd (Option.some_inj.1 hb) (by decide)
  · rfl
  · rcases hb with hb | hb <;> exact (tag_ne (by decide) (by decide) hb).elim

/-- the Schnorr parser accepts exactly the compressed encodings -/
theorem schnorr_parse_iff (b : Bytes) (x y : Nat) :
    schnorrParsePubKey false b = .ok (x, y) ↔ (b.length = 33 ∧ ValidSEC1 b x y) := by
  by_cases h33 : b.length = 33
  · obtain ⟨f, t, rfl, ht⟩ := List.length_eq_succ_iff.1 h33
    rw [schnorr_eq f t ht, Outcome.ite_err_eq_ok, parse_iff]
    refine ⟨fun h => ⟨h33, h.2⟩, fun h => ⟨?_, h.2⟩⟩
    obtain ⟨-, -, hf⟩ := (parse33_iff f t x y ht).1 (parse_of_valid _ x y h.2)
    rcases hf with ⟨rfl, -⟩ | ⟨rfl, -⟩ <;> decide
  · simp [schnorr_badsize b h33, h33]

-- non-vacuity: the generator is on the curve
example : OnCurve Gx Gy := by decide +kernel

/-- Limb level of this property's own functions (as `C01.sign_field_arithmetic_exact`): the regenerated sliced field
    programs of `ParsePubKey` (range checks decide normalisation, parity, curve test, DecompressY then Normalize),
    the serialisers and the Schnorr wrapper pass the abstract interpreter on every path. -/
theorem pubkey_field_arithmetic_exact :
    Secp.Proofs.Slices.entriesOK ["github.com/ModChain/secp256k1.ParsePubKey", "github.com/ModChain/secp256k1.PublicKey.SerializeCompressed", "github.com/ModChain/secp256k1.PublicKey.SerializeUncompressed", "github.com/ModChain/secp256k1.NewPublicKey", "github.com/ModChain/secp256k1.PublicKey.IsEqual", "github.com/ModChain/secp256k1.PublicKey.IsOnCurve", "github.com/ModChain/secp256k1/schnorr.ParsePubKey"] = true :=
  open Secp.Gen.Slices in
  Secp.Proofs.AbsChecked.entriesOK_of_mem
    [s_ParsePubKey, s_PublicKey_SerializeCompressed, s_PublicKey_SerializeUncompressed, s_NewPublicKey, s_PublicKey_IsEqual, s_PublicKey_IsOnCurve, s_schnorr_ParsePubKey]
    (by simp [allSlices])

/-- `Secp.Gen.BytesProg.parsePubKey` — the statement-by-statement translation of `ParsePubKey` produced on every run (length
    switch, format switch, range checks through `SetByteSlice`, the hybrid parity block, `isOnCurve`, `DecompressY`) — is the
    same function as the hand-written model, so the theorems of this file are theorems about what the Go source says now:
    a format byte admitted or refused, a slice bound, the parity comparison, a dropped check or a changed error kind makes this
    theorem fail to check. -/
theorem parsePubKey_regenerated (b : Bytes) : Secp.Gen.BytesProg.parsePubKey b = parsePubKey b := by
  unfold Secp.Gen.BytesProg.parsePubKey Secp.Model.parsePubKey
  repeat peel_pub

/-- the REGENERATED parser never indexes or slices out of range -/
theorem regenerated_no_panic (b : Bytes) : Secp.Gen.BytesProg.parsePubKey b ≠ .panic := by
  rw [parsePubKey_regenerated]; exact parsePubKey_no_panic b

/-- the serialisers as REGENERATED from pubkey.go (pass T7, builders) are the models used above -/
theorem serializeCompressed_regenerated (x y : Nat) :
    Secp.Gen.BytesBuild.serializeCompressed x y = serializeCompressed x y := by
  unfold Secp.Gen.BytesBuild.serializeCompressed Secp.Model.serializeCompressed
  simp [Secp.Proofs.BytesBuild.putBytes_eq, Secp.Proofs.Bytes.be32_length]

theorem serializeUncompressed_regenerated (x y : Nat) :
    Secp.Gen.BytesBuild.serializeUncompressed x y = serializeUncompressed x y := by
  unfold Secp.Gen.BytesBuild.serializeUncompressed Secp.Model.serializeUncompressed
  simp [Secp.Proofs.BytesBuild.putBytes_eq, Secp.Proofs.Bytes.be32_length]

/-- `schnorr.ParsePubKey` (schnorr/pubkey.go: nil test, length test, format byte with the parity bit masked, then
    `secp256k1.ParsePubKey`) regenerated by pass T8 = `schnorrParsePubKey`, for every byte string, nil or not -/
theorem schnorrParsePubKey_regenerated (b : Bytes) (isNil : Bool) :
    Secp.Gen.Drivers.schnorrParsePubKeyGen b isNil =
      (match schnorrParsePubKey isNil b with | .ok pk => DR.ok pk | .err e => DR.err e | .panic => DR.panic) := by
  unfold Secp.Gen.Drivers.schnorrParsePubKeyGen schnorrParsePubKey
  cases isNil with
  | true => simp
  | false =>
    by_cases hl : b.length = 33
    · obtain ⟨x, xs, rfl, -⟩ := List.length_eq_succ_iff.1 hl
      simp only [hl, idx, List.getElem?_cons_zero, List.getD_cons_zero]
      by_cases hf : (x.toNat &&& 254) = 2
      · have hf' : x &&& 0xFE = 0x02 := by
          apply UInt8.toNat_inj.mp; simpa [UInt8.toNat_and] using hf
        simp [hf, hf', Outcome.bind, bind]
        cases parsePubKey (x :: xs) <;> rfl
      · have hf' : ¬ (x &&& 0xFE = 0x02) := by
          intro h; apply hf; have := congrArg UInt8.toNat h; simpa [UInt8.toNat_and] using this
        simp [hf, hf', Outcome.bind, bind]
    · simp [hl]

end Secp.Props.C08
