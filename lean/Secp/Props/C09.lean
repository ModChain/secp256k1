import Secp.Proofs.Der
import Secp.Gen.BytesProg
import Secp.Proofs.BytesPeel
import Secp.Proofs.BytesBuild
/-
  Props/C09 — DER signature codec is strict, canonical and round-trips.
  Model: `Secp.Model.parseDER`, `serializeDER` (hand-written mirrors of signature.go); specification:
  `Secp.Spec.canonicalDER` (written from X.690).  Regenerated: `Secp.Gen.BytesProg.parseDER`,
  `Secp.Gen.BytesBuild.serializeDER`, proved equal to the models (`parseDER_regenerated`, `serializeDER_regenerated`),
  and the main theorems are restated for the regenerated parser.  The flat form of the parser (`parseDER_eq_flat`)
  and the lemmas the theorems share are in `Proofs/Der.lean`;
  `Proofs/BytesPeel.lean` is the step-by-step comparison of a regenerated parser with its model, `Proofs/BytesBuild.lean`
  has the lemmas of the regenerated serialiser.
-/
namespace Secp.Props.C09
open Secp.Spec Secp.Model Secp.Proofs.Der Secp.Proofs.Bytes

theorem parseDER_no_panic (b : Bytes) : parseDER b ≠ .panic := by
  rw [parseDER_eq_flat, parseFlat, flatCore]
  simp only [ne_eq, Outcome.ite_err_eq_panic, Outcome.bind_eq_panic, derInt_ne_panic, reduceCtorEq, and_false,
    exists_false, or_false, not_false_eq_true]

/-- Acceptance is exactly "the canonical DER encoding of two scalars in [1, N-1]",
    and the parsed values are those scalars. -/
theorem parseDER_ok_iff (b : Bytes) (r s : Nat) :
    parseDER b = .ok (r, s) ↔ (b = canonicalDER r s ∧ 0 < r ∧ r < N ∧ 0 < s ∧ s < N) := by
  constructor
  · intro h
    rw [parseDER_eq_flat] at h
    have h' := h
    rw [parseFlat, flatCore_ok_iff] at h'
    -- the seventh conjunct is the length equation guarded by `ErrSigInvalidSLen`: it is what makes `b` a layout
    obtain ⟨h0, h1, h2, h3, R, t0, t1, S, rfl, hRl, hSl⟩ := decomp b h'.2.2.2.2.2.2.1
    obtain ⟨c1, c2, c3, c4, c5, gR, gS, dR, dS⟩ := (parseFlat_mk h0 h1 h2 h3 R t0 t1 S r s hRl hSl).1 h
    rw [derInt_ok_iff] at dR dS
    obtain ⟨er, hr0, hrN⟩ := dR
    obtain ⟨es, hs0, hsN⟩ := dS
    have eR := goodInt_eq R gR
    have eS := goodInt_eq S gS
    rw [← er] at eR
    rw [← es] at eS
    refine ⟨?_, hr0, hrN, hs0, hsN⟩
    rw [canonicalDER_eq_mk, ← eR, ← eS, ← c2, ← hRl, ← hSl, UInt8.ofNat_toNat, UInt8.ofNat_toNat, UInt8.ofNat_toNat, c1, c3, c4]
  · rintro ⟨rfl, hr0, hrN, hs0, hsN⟩
    have := N_lt_pow
    have lr := der_length_le r (by omega)
    have ls := der_length_le s (by omega)
    have hR : (UInt8.ofNat (derIntContents r).length).toNat = (derIntContents r).length := by
      rw [UInt8.toNat_ofNat']; omega
    have hS : (UInt8.ofNat (derIntContents s).length).toNat = (derIntContents s).length := by
      rw [UInt8.toNat_ofNat']; omega
    rw [parseDER_eq_flat, canonicalDER_eq_mk, parseFlat_mk _ _ _ _ _ _ _ _ _ _ hR hS]
    refine ⟨rfl, ?_, rfl, rfl, by omega, goodInt_derIntContents r, goodInt_derIntContents s,
      (derInt_ok_iff _ _ _ _).2 ⟨(beNat_derIntContents r).symm, hr0, hrN⟩,
      (derInt_ok_iff _ _ _ _).2 ⟨(beNat_derIntContents s).symm, hs0, hsN⟩⟩
    rw [UInt8.toNat_ofNat']; omega

theorem parseDER_ok_length (b : Bytes) (r s : Nat) (h : parseDER b = .ok (r, s)) :
    8 ≤ b.length ∧ b.length ≤ 72 := by
  rw [parseDER_eq_flat, parseFlat, flatCore_ok_iff] at h
  omega

/-- Uniqueness: two accepted strings with the same values are the same string. -/
theorem parseDER_unique (b b' : Bytes) (r s : Nat)
    (h : parseDER b = .ok (r, s)) (h' : parseDER b' = .ok (r, s)) : b = b' := by
  rw [(parseDER_ok_iff b r s).1 h |>.1, (parseDER_ok_iff b' r s).1 h' |>.1]

/-- Serialisation emits the canonical encoding of (r, low-s). -/
theorem serializeDER_eq (r s : Nat) (hr : r < N) (hs : s < N) :
    serializeDER r s = canonicalDER r (lowS s) := by
  have := N_lt_pow
  have hl : lowS s < 2 ^ 256 := by unfold lowS; split <;> omega
  simp only [serializeDER, canonicalDER]
  rw [show (if s > halfN then N - s else s) = lowS s from rfl, canonInt_eq r (by omega), canonInt_eq _ hl]

/-- parse ∘ serialise = low-s form. -/
theorem parse_serialize (r s : Nat) (hr0 : 0 < r) (hr : r < N) (hs0 : 0 < s) (hs : s < N) :
    parseDER (serializeDER r s) = .ok (r, lowS s) := by
  rw [serializeDER_eq r s hr hs, parseDER_ok_iff]
  refine ⟨rfl, hr0, hr, ?_, ?_⟩ <;> unfold lowS <;> split <;> omega

/-- serialise ∘ parse = id whenever the parsed s is already low. -/
theorem serialize_parse (b : Bytes) (r s : Nat) (h : parseDER b = .ok (r, s)) (hlow : s ≤ halfN) :
    serializeDER r s = b := by
  obtain ⟨rfl, _, hr, _, hs⟩ := (parseDER_ok_iff b r s).1 h
  rw [serializeDER_eq r s hr hs, lowS, if_neg (by omega)]

/-- Every rejection names a rule the input really violates. -/
theorem parseDER_err_sound (b : Bytes) (e : SigErr) (h : parseDER b = .err e) :
    DerViolates b e := by
  rw [parseDER_eq_flat, parseFlat] at h
  exact flatCore_err b _ _ e (fun h => byteAt_gb b 3 (by omega)) (fun h => byteAt_gb b _ h) h

/-
  `Secp.Gen.BytesProg.parseDER` is produced on every run by tools/gotr pass T7: a statement-by-statement translation
  of `ParseDERSignature` into the `Outcome` monad (index and slice expressions bound first, `&&` kept short-circuit,
  the strip-leading-zeroes loop and the scalar decoding recognised as the model's `stripZeros` /
  `scalarSetByteSlice`).  It is the same function as the hand-written model, so every theorem above is a theorem
  about what the Go source says now: a changed bound, a moved check, an index off by one or a dropped rule makes
  `parseDER_regenerated` fail to check. -/

theorem parseDER_regenerated (b : Bytes) : Secp.Gen.BytesProg.parseDER b = parseDER b := by
  unfold Secp.Gen.BytesProg.parseDER Secp.Model.parseDER
  -- model side: `derInt` as its chain of checks (this `simp only` also inlines the constant /
  -- offset `let`s on both sides); then one statement at a time, in lock step, until nothing is left
  simp only [Secp.Proofs.BytesProg.derInt_bind]
  repeat peel_step

/-- acceptance of the REGENERATED parser is exactly canonical DER of two scalars in [1, N-1] -/
theorem regenerated_ok_iff (b : Bytes) (r s : Nat) :
    Secp.Gen.BytesProg.parseDER b = .ok (r, s) ↔ (b = canonicalDER r s ∧ 0 < r ∧ r < N ∧ 0 < s ∧ s < N) := by
  rw [parseDER_regenerated]; exact parseDER_ok_iff b r s

/-- the REGENERATED parser never indexes or slices out of range -/
theorem regenerated_no_panic (b : Bytes) : Secp.Gen.BytesProg.parseDER b ≠ .panic := by
  rw [parseDER_regenerated]; exact parseDER_no_panic b

/-- every rejection of the REGENERATED parser names a rule the input really violates -/
theorem regenerated_err_sound (b : Bytes) (e : SigErr) (h : Secp.Gen.BytesProg.parseDER b = .err e) : DerViolates b e := by
  rw [parseDER_regenerated] at h; exact parseDER_err_sound b e h

-- non-vacuity: a concrete accepted string, a concrete rejected one
example : parseDER [0x30, 0x06, 0x02, 0x01, 0x01, 0x02, 0x01, 0x01] = .ok (1, 1) := by decide
example : parseDER [0x30, 0x07, 0x02, 0x02, 0x00, 0x01, 0x02, 0x01, 0x01] = .err .ErrSigTooMuchRPadding := by decide

/-- `Signature.Serialize` as REGENERATED statement by statement (tools/gotr pass T7, builders): low-s normalisation, the two
    33-byte buffers filled by PutBytesUnchecked, the canonicalisation loops, the length bytes and the appends — is the
    hand-written model `serializeDER` for every r and every canonical s.  With `serializeDER_eq` it follows that the code as it
    stands emits the canonical DER of (r, low-s). -/
theorem serializeDER_regenerated (r s : Nat) (hs : s < N) :
    Secp.Gen.BytesBuild.serializeDER r s = serializeDER r s := by
  unfold Secp.Gen.BytesBuild.serializeDER Secp.Model.serializeDER
  simp only [Secp.Proofs.BytesBuild.lowS_eq s hs, Secp.Proofs.BytesBuild.canonLoop_buf,
    Secp.Proofs.BytesBuild.totalLen_sub, List.nil_append, List.append_assoc,
    List.cons_append]

theorem regenerated_serialize_canonical (r s : Nat) (hr : r < N) (hs : s < N) :
    Secp.Gen.BytesBuild.serializeDER r s = canonicalDER r (lowS s) := by
  rw [serializeDER_regenerated r s hs]; exact serializeDER_eq r s hr hs

end Secp.Props.C09
