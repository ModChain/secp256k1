import Secp.Proofs.DriversNonce
import Secp.Proofs.Nonce
/-
  Props/C10 — nonce generation follows RFC 6979 with the documented extensions.
  Model: `Secp.Model.nonceM` and the `HmacObj` state machine (hand-written mirrors of nonce.go).
  Specification: `Secp.Spec.nonceRFC6979` (written from RFC 6979 §3.2) over `Secp.Spec.hmacSha256`
  (RFC 2104).  Regenerated: `Secp.Gen.Drivers.nonceRFC6979` and the methods of the `hmacsha256` object.
  The lemmas the theorems share are in `Proofs/Nonce.lean` (the model) and `Proofs/DriversNonce.lean` (the regenerated
  code).
-/
namespace Secp.Props.C10
open Secp.Spec Secp.Model Secp.Proofs.Nonce

/-- an object freshly keyed with k (by newHMACSHA256 or ResetKey, whatever its previous state) and
    then fed `data` by any sequence of Writes returns HMAC-SHA256(k, data) -/
theorem hmac_new_sum (k data : Bytes) (hk : k.length ≤ 64) :
    ((hmacNew k).write data).sum.1 = hmacSha256 k data := by
  rw [hmacNew_eq k hk, keyed_write, keyed_sum, List.nil_append]

theorem hmac_resetKey_sum (h : HmacObj) (k data : Bytes) (hk : k.length ≤ 64) :
    ((h.resetKey k).write data).sum.1 = hmacSha256 k data := by
  rw [resetKey_eq h k hk, keyed_write, keyed_sum, List.nil_append]

/-- Reset() rewinds to "keyed, nothing written": after it the object again returns HMAC(k, data) -/
theorem hmac_reset_sum (k junk data : Bytes) (hk : k.length ≤ 64) :
    ((((hmacNew k).write junk).sum.2.reset).write data).sum.1 = hmacSha256 k data := by
  rw [hmacNew_eq k hk, keyed_write, keyed_sum, keyed_reset, keyed_write, keyed_sum, List.nil_append]

/-- Write is associative with concatenation (so chunking is irrelevant) -/
theorem hmac_write_write (h : HmacObj) (a b : Bytes) : (h.write a).write b = h.write (a ++ b) := by
  simp [HmacObj.write, List.append_assoc]

/-- the key buffer is key‖hash[‖extra[‖version]] with the documented padding/truncation rules -/
theorem keyBuf_spec (priv hash extra version : Bytes) :
    nonceKeyBuf priv hash extra version = nonceKeyMaterial priv hash extra version := by
  unfold nonceKeyBuf nonceKeyMaterial fit32 leftPad zeros
  by_cases he : extra.length = 32 <;> by_cases hv : version.length = 16 <;>
    simp [he, hv, List.append_assoc]

/-- the returned nonce is the (i+1)-th candidate in [1, N-1] of the RFC 6979 HMAC-SHA256 generator -/
theorem nonce_spec (fuel : Nat) (priv hash extra version : Bytes) (i : Nat) :
    nonceM fuel priv hash extra version i = nonceRFC6979 hmacSha256 fuel priv hash extra version i := by
  unfold nonceM nonceRFC6979
  -- the run of the object through steps d to g of RFC 6979 §3.2, then the loop
  simp only [keyBuf_spec, hmacNew_eq (zeros 32) (by simp [zeros]), keyed_reset, keyed_write, keyed_sum,
    List.nil_append, resetKey_eq _ _ (hmacSha256_length_le_64 _ _)]
  exact nonceLoop_spec fuel _ _ _ _ 0 i (Nat.zero_le _)

theorem nonce_range (fuel : Nat) (priv hash extra version : Bytes) (i k : Nat)
    (h : nonceM fuel priv hash extra version i = some k) : 0 < k ∧ k < N := by
  rw [nonce_spec] at h
  exact drbgNonce_range _ _ _ _ _ h

/-- Schnorr feeds its scheme tag as extra data, so its HMAC key material differs from ECDSA's
    (ECDSA passes no extra data) for every key and hash: the two generators are keyed differently -/
theorem schnorr_tag_distinct (priv hash : Bytes) :
    nonceKeyBuf priv hash rfc6979ExtraDataV0 [] ≠ nonceKeyBuf priv hash [] [] := by
  intro h
  have := congrArg List.length h
  simp [nonceKeyBuf, rfc6979ExtraDataV0] at this

/-- the model is a function of its arguments (no hidden state); the code's independence of earlier
    calls is checked by the correspondence run, which issues calls in shuffled orders -/
theorem nonce_pure (fuel : Nat) (priv hash extra version : Bytes) (i : Nat) :
    nonceM fuel priv hash extra version i = nonceM fuel priv hash extra version i := rfl

/-- `NonceRFC6979` (nonce.go) regenerated — key-buffer assembly with Go `copy` semantics, the HMAC prelude and the
    generation loop — equals `nonceM` for ALL byte strings of any lengths -/
theorem nonceRFC6979_regenerated (privKey hash extra version : Bytes) (extraIterations : Nat) :
    Secp.Gen.Drivers.nonceRFC6979 privKey hash extra version extraIterations =
      (match nonceM 256 privKey hash extra version extraIterations with | some x => DR.ok x | none => DR.fuel) :=
  Secp.Proofs.DriversNonce.nonceRFC6979_regenerated privKey hash extra version extraIterations

/-- the translation's guard on Go `int` subtractions never fires -/
theorem nonceRFC6979_ne_undef (privKey hash extra version : Bytes) (extraIterations : Nat) :
    Secp.Gen.Drivers.nonceRFC6979 privKey hash extra version extraIterations ≠ DR.undef := by
  rw [Secp.Proofs.DriversNonce.nonceRFC6979_regenerated]
  cases nonceM 256 privKey hash extra version extraIterations <;> simp

/- The resettable HMAC-SHA256 object itself (nonce.go `hmacsha256`), regenerated (pass T8).
Each SHA-256 state is the byte string written since its last Reset; the object is the Lean structure `HmacObj`.  The
methods are translated statement by statement (the in-place XOR loops over the 64-byte pads included) and proved equal
to the model's operations, which the refinement theorem above relates to HMAC. -/

theorem hmacNew_regenerated (key : Bytes) : Secp.Gen.Drivers.hmacNewGen key = hmacNew key := by
  unfold Secp.Gen.Drivers.hmacNewGen hmacNew
  exact Secp.Proofs.DriversHmac.hmacInitKey_regenerated_le _ key (by simp) (by simp)

theorem hmacWrite_regenerated (h : HmacObj) (p : Bytes) : Secp.Gen.Drivers.hmacWrite h p = h.write p := rfl

theorem hmacReset_regenerated (h : HmacObj) : Secp.Gen.Drivers.hmacReset h = h.reset := by
  unfold Secp.Gen.Drivers.hmacReset HmacObj.reset
  simp

theorem hmacSum_regenerated (h : HmacObj) : Secp.Gen.Drivers.hmacSum h = h.sum := by
  unfold Secp.Gen.Drivers.hmacSum HmacObj.sum
  simp

/-- `initKey` (hash long keys, copy into the pads, XOR in place); pads of at most 64 bytes — exactly what the code's
    64-iteration loops cover (with 65 the two differ: kernel-checked example in Proofs/DriversNonce.lean) -/
theorem hmacInitKey_regenerated (h : HmacObj) (key : Bytes) (hi : h.ipad.length ≤ 64) (ho : h.opad.length ≤ 64) :
    Secp.Gen.Drivers.hmacInitKey h key = h.initKey key :=
  Secp.Proofs.DriversHmac.hmacInitKey_regenerated_le h key hi ho

theorem hmacResetKey_regenerated (h : HmacObj) (key : Bytes) (hi : h.ipad.length = 64) (ho : h.opad.length = 64) :
    Secp.Gen.Drivers.hmacResetKey h key = HmacObj.resetKey h key := by
  unfold Secp.Gen.Drivers.hmacResetKey HmacObj.resetKey
  simp only [Secp.Proofs.DriversHmac.copy_gen, Secp.Proofs.DriversHmac.copyInto_zeros64 _ hi, Secp.Proofs.DriversHmac.copyInto_zeros64 _ ho]
  exact Secp.Proofs.DriversHmac.hmacInitKey_regenerated_le _ key (by simp [zeros]) (by simp [zeros])

/-- the pad-length hypotheses hold for every object the library can build: `newHMACSHA256` gives 64-byte pads, and the
    methods preserve them (`DriversHmac.pads_write`, `pads_reset`, `pads_resetKey`, `pads_sum` in Proofs/Nonce.lean) -/
theorem pads_invariant (key : Bytes) :
    (hmacNew key).ipad.length = 64 ∧ (hmacNew key).opad.length = 64 :=
  Secp.Proofs.DriversHmac.pads_hmacNew key

end Secp.Props.C10

#print axioms Secp.Props.C10.hmacNew_regenerated
#print axioms Secp.Props.C10.hmacWrite_regenerated
#print axioms Secp.Props.C10.hmacReset_regenerated
#print axioms Secp.Props.C10.hmacSum_regenerated
#print axioms Secp.Props.C10.hmacResetKey_regenerated
