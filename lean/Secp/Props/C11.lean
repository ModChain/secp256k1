import Secp.Proofs.DriversSchnorr
import Secp.Proofs.Schnorr
import Secp.Props.C03
import Secp.Proofs.AbsChecked
import Secp.Gen.BytesProg
import Secp.Proofs.BytesPeel
import Secp.Proofs.BytesBuild
/-
  Props/C11 — EC-Schnorr-DCRv0 signing and verification follow the published scheme.
  Model: `Secp.Model.schnorrSignM`, `schnorrSign`, `schnorrVerifyM`, `schnorrParse`,
  `schnorrSerialize` (hand-written mirrors of schnorr/signature.go; BLAKE-256 is a parameter B).
  The theorems about points are conditional on `PointSpec` (the C03/C04 layer).
  Regenerated: `Secp.Gen.Drivers.schnorrSign`, `schnorrVerify`, `schnorrSignRFC6979`, `Secp.Gen.BytesProg.schnorrParse`,
  `Secp.Gen.BytesBuild.schnorrSerialize`.  The lemmas the theorems share are in `Proofs/Schnorr.lean` (the model) and
  `Proofs/DriversSchnorr.lean` (the regenerated code).
-/
namespace Secp.Props.C11
open Secp.Spec Secp.Model Secp.Proofs Secp.Proofs.Schnorr

/-- the challenge e = BLAKE-256(r ‖ m) read as an integer -/
def challenge (B : Bytes → Bytes) (r : Nat) (m : Bytes) : Nat := beNat (B (be32 r ++ m))

/-- verification returns nil exactly when m is 32 bytes, Q is on the curve, e < N, and
    R = s·G + e·Q is a finite point with even y and x = r; every other outcome is an error.  For any `r`: the parser's
    `r < P` is not used. -/
theorem verify_iff (hp : PointSpec) (B : Bytes → Bytes) (hB : ∀ x, (B x).length = 32)
    (r s : Nat) (m : Bytes) (x y : Nat) (hs : s < N) (hx : x < P) (hy : y < P) :
    schnorrVerifyM B r s m (x, y) = none ↔
      (m.length = 32 ∧ OnCurve x y ∧ challenge B r m < N ∧
        ∃ rx ry, Pt.add (smul s G) (smul (challenge B r m) (some (x, y))) = some (rx, ry) ∧ ry % 2 = 0 ∧ rx = r) := by
  have hcurve : isOnCurveM x y = true ↔ OnCurve x y :=
    ⟨fun h => ⟨hx, hy, (PubKey.isOnCurveM_iff x y).1 h⟩, fun h => (PubKey.isOnCurveM_iff x y).2 h.2.2⟩
  unfold challenge schnorrVerifyM
  simp only [commitScalar_32 _ (hB _)]
  rw [Option.ite_some_eq_none, Option.ite_some_eq_none, Option.ite_some_eq_none, not_not, not_not, hcurve,
    decide_eq_true_eq, Nat.not_le]
  refine and_congr_right fun _ => and_congr_right fun hon => and_congr_right fun he => ?_
  obtain ⟨w3, t3⟩ := Ecdsa.lincomb hp hs he hon
  rw [if_neg (Nat.not_le.2 he), verify_tail hp _ w3 r, t3]

/-- signing with a given nonce follows the README algorithm: R = k·G, k negated when R.y is odd,
    r = R.x, e = BLAKE-256(r ‖ m) (error when ≥ N), s = k − e·d mod N -/
theorem sign_spec (hp : PointSpec) (B : Bytes → Bytes) (hB : ∀ x, (B x).length = 32)
    (d k : Nat) (m : Bytes) (hk0 : 0 < k) (hk : k < N) (rx ry : Nat) (hR : smul k G = some (rx, ry)) :
    schnorrSignM B d k m =
      (if challenge B rx m ≥ N then .error .ErrSchnorrHashValue
       else .ok (rx, nadd (nneg (nmul (challenge B rx m) d)) (if ry % 2 = 1 then nneg k else k))) :=
  signM_eq hp B hB d k m hk rx ry hR

/-- Sign refuses a zero key and a message that is not 32 bytes -/
theorem sign_guards (B : Bytes → Bytes) (d : Nat) (m : Bytes) :
    (m.length ≠ 32 → schnorrSign B d m = .error .ErrInvalidHashLen) ∧
    (m.length = 32 → d = 0 → schnorrSign B d m = .error .ErrPrivateKeyIsZero) := by
  unfold schnorrSign
  constructor
  · intro h
    rw [if_pos h]
  · intro h hd
    rw [if_neg (not_not.2 h), if_pos hd]

/-- the 64-byte codec accepts exactly length 64 with r < P and s < N, and returns those values -/
theorem parse_iff (b : Bytes) (r s : Nat) :
    schnorrParse b = .ok (r, s) ↔ (b.length = 64 ∧ r = beNat (b.take 32) ∧ r < P ∧ s = beNat (b.drop 32) ∧ s < N) :=
  Secp.Proofs.Schnorr.parse_iff b r s

theorem parse_serialize (r s : Nat) (hr : r < P) (hs : s < N) : schnorrParse (schnorrSerialize r s) = .ok (r, s) :=
  (parse_ok_iff _ r s).2 ⟨rfl, hr, hs⟩

theorem serialize_parse (b : Bytes) (r s : Nat) (h : schnorrParse b = .ok (r, s)) : schnorrSerialize r s = b :=
  ((parse_ok_iff b r s).1 h).1.symm

theorem verify_iff_unconditional (B : Bytes → Bytes) (hB : ∀ x, (B x).length = 32)
    (r s : Nat) (m : Bytes) (x y : Nat) (hr : r < P) (hs : s < N) (hx : x < P) (hy : y < P) :
    schnorrVerifyM B r s m (x, y) = none ↔
      (m.length = 32 ∧ OnCurve x y ∧ challenge B r m < N ∧
        ∃ rx ry, Pt.add (smul s G) (smul (challenge B r m) (some (x, y))) = some (rx, ry) ∧ ry % 2 = 0 ∧ rx = r) :=
  verify_iff Secp.Props.C03.pointSpec B hB r s m x y hs hx hy

/-- Limb level of this property's own functions (as `C01.sign_field_arithmetic_exact`): the regenerated sliced field
    programs of Schnorr sign / verify / parse / serialise pass the abstract interpreter on every path. -/
theorem schnorr_field_arithmetic_exact :
    Secp.Proofs.Slices.entriesOK ["github.com/ModChain/secp256k1/schnorr.schnorrVerify", "github.com/ModChain/secp256k1/schnorr.schnorrSign", "github.com/ModChain/secp256k1/schnorr.ParseSignature", "github.com/ModChain/secp256k1/schnorr.Signature.Serialize", "github.com/ModChain/secp256k1/schnorr.Signature.IsEqual", "github.com/ModChain/secp256k1/schnorr.NewSignature"] = true :=
  open Secp.Gen.Slices in
  Secp.Proofs.AbsChecked.entriesOK_of_mem
    [s_schnorr_schnorrVerify, s_schnorr_schnorrSign, s_schnorr_ParseSignature, s_schnorr_Signature_Serialize, s_schnorr_Signature_IsEqual, s_schnorr_NewSignature]
    (by simp [allSlices])

/-- the statement-by-statement translation of `ParseSignature` (exact length 64, r < P through `FieldVal.SetByteSlice`, s < N
    through `ModNScalar.SetByteSlice`) never panics and is the hand-written model `schnorrParse` of the codec theorems above -/
theorem schnorrParse_regenerated (b : Bytes) :
    Secp.Gen.BytesProg.schnorrParse b = Secp.Proofs.BytesProgSig.ofExcept (schnorrParse b) := by
  unfold Secp.Gen.BytesProg.schnorrParse Secp.Model.schnorrParse
  simp only [apply_ite Secp.Proofs.BytesProgSig.ofExcept, Secp.Proofs.BytesProgSig.ofExcept_ok, Secp.Proofs.BytesProgSig.ofExcept_error, Secp.Model.fieldSetBytes32,
    decide_eq_true_eq]
  repeat peel_sig

/-- schnorr `Signature.Serialize` as REGENERATED (pass T7, builders) is the model `schnorrSerialize` -/
theorem schnorrSerialize_regenerated (r s : Nat) :
    Secp.Gen.BytesBuild.schnorrSerialize r s = schnorrSerialize r s := by
  unfold Secp.Gen.BytesBuild.schnorrSerialize Secp.Model.schnorrSerialize
  simp [Secp.Proofs.BytesBuild.putBytes_eq, Secp.Proofs.Bytes.be32_length]

theorem schnorrSign_regenerated (B : Bytes → Bytes) (d k : Nat) (h : Bytes) (hl : h.length = 32) :
    Secp.Gen.Drivers.schnorrSign B d k h =
      (match schnorrSignM B d k h with | .ok x => DR.ok x | .error e => DR.err e) :=
  Secp.Proofs.DriversSchnorr.schnorrSign_regenerated B d k h hl

theorem schnorrVerify_regenerated (B : Bytes → Bytes) (r s : Nat) (h : Bytes) (Q : Nat × Nat) :
    Secp.Gen.Drivers.schnorrVerify B (r, s) h Q =
      (match schnorrVerifyM B r s h Q with | none => DR.ok () | some e => DR.err e) :=
  Secp.Proofs.DriversSchnorr.schnorrVerify_regenerated B r s h Q

/-- the exported `Sign` (length and zero-key checks, retry loop with the scheme tag) regenerated -/
theorem schnorrSignRFC6979_regenerated (B : Bytes → Bytes) (d : Nat) (h : Bytes) :
    Secp.Gen.Drivers.schnorrSignRFC6979 B d h =
      (match Secp.Model.schnorrSign B d h with
        | .ok x => DR.ok x | .error .NoNonce => DR.fuel | .error e => DR.err e) :=
  Secp.Proofs.DriversSchnorr.schnorrSignRFC6979_regenerated B d h

/-- the exported schnorr `Signature.Verify` is `schnorrVerify … == nil` -/
theorem schnorrVerifyBool_front (B : Bytes → Bytes) (sig : Nat × Nat) (h : Bytes) (Q : Nat × Nat) :
    Secp.Gen.Drivers.schnorrVerifyBool B sig h Q =
      (match Secp.Gen.Drivers.schnorrVerify B sig h Q with | .ok _ => true | _ => false) := rfl

end Secp.Props.C11
