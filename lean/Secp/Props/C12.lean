import Secp.Proofs.DriversChild
import Secp.Proofs.Bip32
import Secp.Props.C03
import Secp.Proofs.AbsChecked
/-
  Props/C12 — BIP32 child derivation matches the specification and commutes with neutering.
  Model: `Secp.Model.childWithIL`, `deriveWithIL`, `ExtKey.neuter`, `fromSeed` (hand-written mirrors of
  ecckd/extended.go; HMAC-SHA512 and RIPEMD160∘SHA256 are parameters `O`).  Point-level theorems are
  conditional on `PointSpec`.  BIP32's two rejection rules that the code does not implement (child
  private key 0, child point at infinity) need a SHA-512 preimage to reach; they appear as explicit
  hypotheses where relevant and are listed in DESIGN.md (O2).
  Regenerated: `Secp.Gen.Drivers.childWithILGen`, `deriveWithILGen`, `deriveGen`, `fromSeedGen`, `publicGen`, `pubKeyBytes`, ….
  The lemmas the theorems share are in `Proofs/Bip32.lean` (the model) and
  `Proofs/DriversChild.lean` (the regenerated code; the adaptor methods it calls are in `Proofs/DriversAdaptor.lean`).
-/
namespace Secp.Props.C12
open Secp.Spec Secp.Model Secp.Proofs Secp.Proofs.Bip32

/-- a well-formed private extended key: private version, 32-byte key in [1, N-1] -/
def PrivKeyOK (k : ExtKey) : Prop := k.isPrivate = true ∧ k.keyData.length = 32 ∧ 0 < beNat k.keyData ∧ beNat k.keyData < N

/-- BIP32 data fed to HMAC-SHA512 for child i -/
def ckdData (k : ExtKey) (i : Nat) : Bytes :=
  if i ≥ 2^31 then (0 : UInt8) :: k.keyData ++ ser32 i else k.pubKeyBytes ++ ser32 i

/-- CKDpriv: fields of the child of a private parent -/
theorem ckd_priv_spec (O : Oracles) (k : ExtKey) (i : Nat) (hk : PrivKeyOK k) (hd : k.depth < 255) (hi : i < 2^32)
    (hvalid : let I := O.hmac512 k.chainCode (ckdData k i); 0 < beNat (I.take 32) ∧ beNat (I.take 32) < N)
    (hI : (O.hmac512 k.chainCode (ckdData k i)).length = 64) :
    let I := O.hmac512 k.chainCode (ckdData k i)
    childWithIL O k i = .ok (beNat (I.take 32),
      { version := k.version, depth := k.depth + 1, fingerprint := (O.hash160 k.pubKeyBytes).take 4, childNumber := i,
        keyData := be32 ((beNat (I.take 32) + beNat k.keyData) % N), chainCode := I.drop 32 }) := by
  unfold ckdData at hvalid ⊢
  rw [← seedOf_eq k i hk.2.1 (by rw [pubKeyBytes_priv k hk.1]; exact serCompressedXY_length _)] at hvalid ⊢
  exact (childWithIL_priv_iff O k _ i _ hk.1).2 ⟨by omega, rfl, hvalid.1, hvalid.2, rfl⟩

/-- the Go code left-pads `big.Int.Bytes()` of the child scalar: leading zero bytes are kept, the key data has 32 bytes -/
theorem child_key_len (O : Oracles) (k c : ExtKey) (i il : Nat) (hp : k.isPrivate = true)
    (h : childWithIL O k i = .ok (il, c)) : c.keyData.length = 32 := by
  obtain ⟨-, -, -, -, rfl⟩ := (childWithIL_priv_iff O k c i il hp).1 h
  exact Bytes.be32_length _

theorem hardened_from_public_refused (O : Oracles) (k : ExtKey) (i : Nat) (hpub : k.isPrivate = false)
    (hd : k.depth ≠ 255) (hi : i ≥ 2^31) : childWithIL O k i = .error .ErrDerivingHardenedFromPublic := by
  unfold childWithIL
  rw [if_neg hd]
  simp only [hpub, Bool.not_false, Bool.true_and, decide_eq_true_eq]
  rw [if_pos (by omega)]

theorem depth_255_refused (O : Oracles) (k : ExtKey) (i : Nat) (hd : k.depth = 255) :
    childWithIL O k i = .error .ErrMaxDepthExceeded := by
  unfold childWithIL
  rw [if_pos hd]

/-- the tweak returned with a derived private key: child = parent + t (mod N), along any path -/
theorem tweak_spec_priv (O : Oracles) (k c : ExtKey) (path : List Nat) (t : Nat) (hk : PrivKeyOK k)
    (h : deriveWithIL O k path none = .ok (some t, c)) :
    beNat c.keyData = (beNat k.keyData + t) % N :=
  derive_aux O path k c none _ t hk.1 rfl h

/-- neutering commutes with non-hardened derivation: Public(Child(k, i)) = Child(Public(k), i),
    with the same I_L (conditional on PointSpec; the two BIP32 edge cases — child key 0 and
    I_L·G + K = ∞ — are excluded by hypothesis `hne`) -/
theorem neuter_commutes (hp : PointSpec) (O : Oracles) (k c : ExtKey) (i il : Nat) (hk : PrivKeyOK k) (hi : i < 2^31)
    (h : childWithIL O k i = .ok (il, c)) (hne : beNat c.keyData ≠ 0) :
    childWithIL O k.neuter i = .ok (il, c.neuter) := by
  obtain ⟨hpriv, hkl, hk0, hkN⟩ := hk
  obtain ⟨hdepth, hil, h0, hN, hc⟩ := (childWithIL_priv_iff O k c i il hpriv).1 h
  have hn := neuter_isPrivate k hpriv
  -- the child key (I_L + k) mod N read back from its 32 bytes
  have hsN : (il + beNat k.keyData) % N < N := Nat.mod_lt _ N_pos
  have hcb : beNat (be32 ((il + beNat k.keyData) % N)) = (il + beNat k.keyData) % N :=
    Bytes.beNat_be32_of_lt (Nat.lt_trans hsN Bytes.N_lt_pow)
  simp only [hc, hcb] at hne
  -- the three points: k·G, I_L·G and their sum, the child's public key
  obtain ⟨xp, yp, hPon, hPs, hPb⟩ := baseMult_spec hp k.keyData hk0 hkN
  obtain ⟨xi, yi, hIon, hIs, hIb⟩ := baseMult_spec hp ((O.hmac512 k.chainCode (seedOf k i)).take 32)
    (by rw [← hil]; exact h0) (by rw [← hil]; exact hN)
  obtain ⟨xc, yc, hCon, hCs, hCb⟩ := baseMult_spec hp (be32 ((il + beNat k.keyData) % N))
    (by rw [hcb]; omega) (by rw [hcb]; exact hsN)
  have hadd : adaptorAdd (xi, yi) (xp, yp) = (xc, yc) :=
    adaptorAdd_spec hp hIon hPon (by rw [← hIs, ← hPs, ← hil, add_smul_G, ← hcb, hCs])
  -- the public side: each condition of CKDpub on the neutered parent, then the two children field by field
  rw [childWithIL_pub_iff O k.neuter _ i il hn hi, seedOf_neuter k i hpriv hi, pubKeyBytes_pub _ hn, neuter_priv k hpriv]
  simp only
  rw [hIb]
  refine ⟨hdepth, hil, h0, hN, PubKey.onCurve_x_ne_zero hIon, PubKey.y_ne_zero hIon.2.2, (xp, yp), ?_, ?_⟩
  · rw [pubKeyBytes_priv k hpriv, hPb, serCompressedXY_eq]
    exact PubKey.parse33_of xp yp hPon
  · have hcp : c.isPrivate = true := by rw [hc]; exact hpriv
    rw [hadd, neuter_priv c hcp, pubKeyBytes_priv c hcp, hc]
    simp only
    rw [Adaptor.bigToField_of_lt hCon.1, Adaptor.bigToField_of_lt hCon.2.1, hCb, serCompressedXY_eq,
      versionToPublic_idem]

theorem neuter_commutes_unconditional (O : Oracles) (k c : ExtKey) (i il : Nat) (hk : PrivKeyOK k) (hi : i < 2^31)
    (h : childWithIL O k i = .ok (il, c)) (hne : beNat c.keyData ≠ 0) :
    childWithIL O k.neuter i = .ok (il, c.neuter) :=
  neuter_commutes Secp.Props.C03.pointSpec O k c i il hk hi h hne

/-- Limb level of this property's own functions (as `C01.sign_field_arithmetic_exact`): the regenerated sliced field
    programs of `ChildWithIL` (public-parent branch: parse, add, rebuild the key) and asFV pass the abstract
    interpreter on every path. -/
theorem bip32_field_arithmetic_exact :
    Secp.Proofs.Slices.entriesOK ["github.com/ModChain/secp256k1/ecckd.ExtendedKey.ChildWithIL", "github.com/ModChain/secp256k1/ecckd.asFV"] = true :=
  open Secp.Gen.Slices in
  Secp.Proofs.AbsChecked.entriesOK_of_mem
    [s_ecckd_ExtendedKey_ChildWithIL, s_ecckd_asFV]
    (by simp [allSlices])

/-- an extended key as the tuple the regenerated code works on -/
abbrev tup := Secp.Proofs.DriversChild.tup

/-- `ExtendedKey.ChildWithIL` (ecckd/extended.go) regenerated = `childWithIL`: for every parent key (whatever its
    key-data and chain-code lengths), every index below 2^32 and depth below 256 (the ranges of the Go types), and any
    hash oracles whose RIPEMD160∘SHA256 output has at least the 4 bytes the fingerprint takes -/
theorem childWithIL_regenerated (O : Oracles) (e : ExtKey) (i : Nat)
    (hd : e.depth < 256) (hi : i < 2^32) (hfp : 4 ≤ (O.hash160 e.pubKeyBytes).length) :
    Secp.Gen.Drivers.childWithILGen O (tup e) i =
      (match childWithIL O e i with
       | .ok (il, c) => DR.ok (il, tup c)
       | .error err => DR.err err) :=
  Secp.Proofs.DriversChild.childWithIL_regenerated' O e i hd hi hfp

theorem pubKeyBytes_regenerated (e : ExtKey) : Secp.Gen.Drivers.pubKeyBytes (tup e) = e.pubKeyBytes :=
  Secp.Proofs.DriversChild.pubKeyBytes_regenerated e

theorem serializeCompressedEcdsa_regenerated (x y : Nat) :
    Secp.Gen.Drivers.serializeCompressedEcdsa ((), x, y) = serCompressedXY (x, y) :=
  Secp.Proofs.DriversChild.serializeCompressedEcdsa_regenerated x y

theorem child_front (O : Oracles) (k : Bytes × Nat × Bytes × Nat × Bytes × Bytes × Unit) (i : Nat) :
    Secp.Gen.Drivers.childGen O k i = (match Secp.Gen.Drivers.childWithILGen O k i with
      | .ok (_, ek) => DR.ok ek | .err e => DR.err e | .panic => DR.panic | .fuel => DR.fuel | .undef => DR.undef) :=
  Secp.Proofs.FrontBip.child_front O k i

theorem fromSeed_regenerated (O : Oracles) (seed ms : Bytes) :
    Secp.Gen.Drivers.fromSeedGen O seed ms = (match fromSeed O seed ms with | .ok e => DR.ok (tup e) | .error err => DR.err err) := by
  unfold Secp.Gen.Drivers.fromSeedGen fromSeed
  obtain ⟨key, cc, ok, hr⟩ : ∃ key cc ok, hmacCKD O seed ms = (key, cc, ok) := ⟨_, _, _, rfl⟩
  simp only [hr]
  cases ok <;> rfl

theorem public_regenerated (e : ExtKey) : Secp.Gen.Drivers.publicGen (tup e) = DR.ok (tup e.neuter) := by
  unfold Secp.Gen.Drivers.publicGen ExtKey.neuter
  rw [Secp.Proofs.DriversChild.pubKeyBytes_regenerated]
  simp only [Secp.Proofs.DriversChild.tup, ExtKey.isPrivate]
  rcases Bool.eq_false_or_eq_true (versionIsPrivate e.version) with h | h <;> simp [h]

/-- `FromPublicKey` regenerated = `fromPublicKey`: only the chain-code length is checked, and the key data is the compressed
    form of the caller's coordinates exactly as given (32 bytes of x, whatever its leading zeros) -/
theorem fromPublicKey_regenerated (x y : Nat) (cc : Bytes) :
    Secp.Gen.Drivers.fromPublicKeyGen ((), x, y) cc =
      (match fromPublicKey x y cc with | .ok e => DR.ok (tup e) | .error _ => DR.err ()) := by
  unfold Secp.Gen.Drivers.fromPublicKeyGen fromPublicKey
  rw [Secp.Proofs.DriversChild.serializeCompressedEcdsa_regenerated]
  by_cases h : cc.length = 32 <;>
    simp [h, Secp.Proofs.DriversChild.tup, mainnetPub, Secp.Gen.Drivers.pv_BitcoinMainnetPublic]

/-- `ToPublicSecp256k1` regenerated: the public-key parser applied to `pubKeyBytes` (so, by `pubKeyBytes_regenerated`, to
    the stored key data of a public key and to the compressed form of k·G for a private one) -/
theorem toPublicSecp_regenerated (e : ExtKey) :
    Secp.Gen.Drivers.toPublicSecpGen (tup e) =
      (match parsePubKey e.pubKeyBytes with | .ok pk => DR.ok pk | .err pe => DR.err pe | .panic => DR.panic) := by
  unfold Secp.Gen.Drivers.toPublicSecpGen
  rw [Secp.Proofs.DriversChild.pubKeyBytes_regenerated]
  cases parsePubKey e.pubKeyBytes <;> rfl

/-- `DeriveWithIL` (the loop over the path with its accumulated tweak, a nil-able big integer) regenerated =
    `deriveWithIL`, for every path of uint32 indices, every starting key of depth below 256 and hash oracles whose
    RIPEMD160∘SHA256 output has at least 4 bytes — so the path-induction theorems above (`tweak…`) speak about the code -/
theorem deriveWithIL_regenerated (O : Oracles) (hfp : ∀ x, 4 ≤ (O.hash160 x).length) (e : ExtKey)
    (hd : e.depth < 256) (path : List Nat) (hp : ∀ i ∈ path, i < 2^32) :
    Secp.Gen.Drivers.deriveWithILGen O (tup e) path =
      (match deriveWithIL O e path none with | .ok (t, c) => DR.ok (t, tup c) | .error err => DR.err err) := by
  unfold Secp.Gen.Drivers.deriveWithILGen
  exact Secp.Proofs.DriversDerive.deriveWithIL_loop_regenerated O (hfp := hfp) (hp := hp) (hd := hd) ..

theorem derive_regenerated (O : Oracles) (hfp : ∀ x, 4 ≤ (O.hash160 x).length) (e : ExtKey)
    (hd : e.depth < 256) (path : List Nat) (hp : ∀ i ∈ path, i < 2^32) :
    Secp.Gen.Drivers.deriveGen O (tup e) path =
      (match deriveWithIL O e path none with | .ok (_, c) => DR.ok (tup c) | .error err => DR.err err) := by
  unfold Secp.Gen.Drivers.deriveGen
  exact Secp.Proofs.DriversDerive.derive_loop_regenerated O (hfp := hfp) (hp := hp) (hd := hd) (il := none) ..

/-- `FromBitcoinSeed` = `FromSeed` with the salt "Bitcoin seed" -/
theorem fromBitcoinSeed_front (O : Oracles) (seed : Bytes) :
    Secp.Gen.Drivers.fromBitcoinSeedGen O seed =
      Secp.Gen.Drivers.fromSeedGen O seed [0x42, 0x69, 0x74, 0x63, 0x6f, 0x69, 0x6e, 0x20, 0x73, 0x65, 0x65, 0x64] := rfl

end Secp.Props.C12
