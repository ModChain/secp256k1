import Secp.Gen.Consts
import Secp.Proofs.DriversBip32
import Secp.Proofs.Bip32
import Secp.Proofs.AbsChecked
/-
  Props/C13 — extended-key serialisation round-trips, rejects malformed input, owns its data.
  Model: `Secp.Model.unmarshal`, `ExtKey.marshal`.  In the model a decoded key is a value by
  construction (no sharing is expressible); that the CODE does not alias the caller's buffer is
  checked by the correspondence run, which overwrites the input after every decode and re-reads the
  key (the guard against defect F2, DESIGN.md §8).
  Regenerated: `Secp.Gen.Drivers.unmarshalBinary`, `versionIsPrivateGen`, `versionToPublicGen`, `Secp.Gen.Consts`.
  The lemmas the theorems share are in `Proofs/Bip32.lean` (the model) and `Proofs/DriversBip32.lean` (the regenerated
  code).
-/
namespace Secp.Props.C13
open Secp.Spec Secp.Model Secp.Proofs Secp.Proofs.Bip32

/-- decoding accepts exactly: length 82, matching double-SHA256 checksum, key type consistent with
    the version, private key in [1, N-1] or a valid compressed/uncompressed-prefixed public key -/
theorem unmarshal_ok_iff (data : Bytes) (k : ExtKey) :
    unmarshal data = .ok k ↔
      (data.length = 82 ∧ data.drop 78 = (doubleSha256 (data.take 78)).take 4 ∧
       k.version = data.take 4 ∧ k.depth = (data.getD 4 0).toNat ∧ k.fingerprint = (data.take 9).drop 5 ∧
       k.childNumber = beNat ((data.take 13).drop 9) ∧ k.chainCode = (data.take 45).drop 13 ∧
       ((data.getD 45 1 = 0 ∧ versionIsPrivate (data.take 4) = true ∧ k.keyData = (data.take 78).drop 46 ∧
           0 < beNat k.keyData ∧ beNat k.keyData < N) ∨
        (data.getD 45 1 ≠ 0 ∧ versionIsPrivate (data.take 4) = false ∧ k.keyData = (data.take 78).drop 45 ∧
           ∃ xy, parsePubKey k.keyData = .ok xy))) := by
  by_cases hl : data.length = 82
  swap
  · simp [Bip32.unmarshal_len data hl, hl]
  by_cases hc : data.drop 78 = (doubleSha256 (data.take 78)).take 4
  swap
  · simp [Bip32.unmarshal_checksum data hl hc, hc]
  rw [unmarshal_eq data hl hc]
  obtain ⟨ver, dep, fp, cn, kd, cc⟩ := k
  simp only [hl, hc, true_and, Except.ite_error_eq_ok]
  by_cases h0 : data.getD 45 1 = 0
  · -- key byte 0x00: under a public version both sides are false and the `simp` closes the goal; under a private
    -- one it leaves the range check and the six field equations
    cases hv : versionIsPrivate (data.take 4) <;>
      simp only [h0, beq_self_eq_true, if_true, Except.ite_error_eq_ok, Except.ok.injEq, ExtKey.mk.injEq, ne_eq,
        not_true, false_and, or_false, true_and, Bool.true_bne, Bool.not_false, Bool.not_true, not_false_eq_true,
        Bool.false_eq_true, and_false, reduceCtorEq]
    constructor
    · rintro ⟨h, rfl, rfl, rfl, rfl, rfl, rfl⟩
      exact ⟨rfl, rfl, rfl, rfl, rfl, rfl, by omega, by omega⟩
    · rintro ⟨rfl, rfl, rfl, rfl, rfl, rfl, h1, h2⟩
      exact ⟨by omega, rfl, rfl, rfl, rfl, rfl, rfl⟩
  · -- key byte ≠ 0: under a private version both sides are false; under a public one the `match` on
    -- `parsePubKey` is left
    have hb : (data.getD 45 1 == 0) = false := by simpa using h0
    cases hv : versionIsPrivate (data.take 4) <;>
      simp only [h0, hb, ne_eq, not_false_eq_true, false_and, false_or, true_and, and_false,
        Bool.false_eq_true, if_false, bne_self_eq_false, Bool.bne_true, Bool.not_false, not_true, reduceCtorEq]
    cases hp : parsePubKey ((data.take 78).drop 45) with
    | ok a =>
      simp only [Except.ok.injEq, ExtKey.mk.injEq]
      constructor
      · rintro ⟨rfl, rfl, rfl, rfl, rfl, rfl⟩
        exact ⟨rfl, rfl, rfl, rfl, rfl, rfl, a, hp⟩
      · rintro ⟨rfl, rfl, rfl, rfl, rfl, rfl, -⟩
        exact ⟨rfl, rfl, rfl, rfl, rfl, rfl⟩
    | _ =>
      simp only [reduceCtorEq, false_iff]
      rintro ⟨-, -, -, -, -, rfl, xy, h⟩
      rw [hp] at h; cases h

/-- the two rules checked first, in this order: length, then checksum -/
theorem unmarshal_len (data : Bytes) (h : data.length ≠ 82) : unmarshal data = .error .ErrInvalidKeyLen :=
  Secp.Proofs.Bip32.unmarshal_len data h

theorem unmarshal_checksum (data : Bytes) (hl : data.length = 82)
    (hc : data.drop 78 ≠ (doubleSha256 (data.take 78)).take 4) : unmarshal data = .error .ErrBadChecksum :=
  Secp.Proofs.Bip32.unmarshal_checksum data hl hc

/-- round trip for private keys this package can produce (32-byte key in range, 32-byte chain code) -/
theorem marshal_unmarshal_priv (k : ExtKey) (hv : versionIsPrivate k.version = true) (hvl : k.version.length = 4)
    (hd : k.depth < 256) (hf : k.fingerprint.length = 4) (hc : k.childNumber < 2^32) (hcc : k.chainCode.length = 32)
    (hkl : k.keyData.length = 32) (hk0 : 0 < beNat k.keyData) (hkN : beNat k.keyData < N) :
    unmarshal k.marshal = .ok k := by
  have hlen := Bip32.marshal_len_priv k hv hvl hf hcc (Nat.le_of_eq hkl)
  rw [marshal_priv_eq k hv hkl] at hlen ⊢
  generalize hCS : (doubleSha256 _).take 4 = CS at hlen ⊢
  obtain ⟨ht, hdr, e1, e2, e3, e4, e5, e6, e7⟩ := layout k.version k.fingerprint (ser32 k.childNumber) k.chainCode
    k.keyData CS (UInt8.ofNat k.depth) hvl hf (ser32_length _) hcc hkl
  refine (unmarshal_ok_iff _ k).2 ⟨hlen, by rw [hdr, ht, hCS], e1.symm, ?_, e3.symm, ?_, e5.symm,
    .inl ⟨e7, e1.symm ▸ hv, e6.symm, hk0, hkN⟩⟩
  · rw [e2, UInt8.toNat_ofNat']
    exact (Nat.mod_eq_of_lt hd).symm
  · rw [e4, ser32, Bytes.beNat_beBytes]
    exact (Nat.mod_eq_of_lt hc).symm

theorem marshal_len_priv (k : ExtKey) (hv : versionIsPrivate k.version = true) (hvl : k.version.length = 4)
    (hf : k.fingerprint.length = 4) (hcc : k.chainCode.length = 32) (hkl : k.keyData.length ≤ 32) :
    k.marshal.length = 82 :=
  Secp.Proofs.Bip32.marshal_len_priv k hv hvl hf hcc hkl

/-- Limb level of this property's own functions (as `C01.sign_field_arithmetic_exact`): the regenerated sliced field
    programs of `UnmarshalBinary`'s public-key validation and the conversions pass the abstract interpreter on every
    path. -/
theorem extkey_field_arithmetic_exact :
    Secp.Proofs.Slices.entriesOK ["github.com/ModChain/secp256k1/ecckd.ExtendedKey.UnmarshalBinary", "github.com/ModChain/secp256k1/ecckd.ExtendedKey.ToPublicSecp256k1", "github.com/ModChain/secp256k1/ecckd.ExtendedKey.ToPublicECDSA"] = true :=
  open Secp.Gen.Slices in
  Secp.Proofs.AbsChecked.entriesOK_of_mem
    [s_ecckd_ExtendedKey_UnmarshalBinary, s_ecckd_ExtendedKey_ToPublicSecp256k1, s_ecckd_ExtendedKey_ToPublicECDSA]
    (by simp [allSlices])

/-- `ExtendedKey.UnmarshalBinary` (ecckd/extended.go) regenerated = `unmarshal`, for EVERY byte string and whatever the
    receiver held before: the decoded fields on success, the model's error otherwise; never `.panic`, never `.undef` -/
theorem unmarshalBinary_regenerated (k : Bytes × Nat × Bytes × Nat × Bytes × Bytes × Unit) (data : Bytes) :
    Secp.Gen.Drivers.unmarshalBinary k data =
      (match unmarshal data with
       | .ok e => DR.ok (e.version, e.depth, e.fingerprint, e.childNumber, e.keyData, e.chainCode, ())
       | .error err => DR.err err) :=
  Secp.Proofs.DriversBip32.unmarshalBinary_regenerated k data

/-- decoding does not depend on what the receiver held before (C13's "decoding into a used object") -/
theorem unmarshalBinary_receiver_indep (k k' : Bytes × Nat × Bytes × Nat × Bytes × Bytes × Unit) (data : Bytes) :
    Secp.Gen.Drivers.unmarshalBinary k data = Secp.Gen.Drivers.unmarshalBinary k' data :=
  Secp.Proofs.DriversBip32.unmarshalBinary_receiver_indep k k' data

theorem version_regenerated (v : Bytes) :
    Secp.Gen.Drivers.versionIsPrivateGen v = versionIsPrivate v ∧ Secp.Gen.Drivers.versionToPublicGen v = versionToPublic v :=
  ⟨Secp.Proofs.DriversBip32.versionIsPrivate_regenerated v, Secp.Proofs.DriversBip32.versionToPublic_regenerated v⟩

/-- the curve parameters the code reads through `curveParams` / `S256().N` / `Params().N` (regenerated literals, pass T3)
    are the constants of the specification: pass T8 writes `N` / `P` for them on the strength of this theorem -/
theorem curve_params_are_spec :
    Secp.Gen.Consts.curveParams_N = Secp.Spec.N ∧ Secp.Gen.Consts.curveParams_P = Secp.Spec.P ∧
    Secp.Gen.Consts.curveParams_Gx = Secp.Spec.Gx ∧ Secp.Gen.Consts.curveParams_Gy = Secp.Spec.Gy ∧
    Secp.Gen.Consts.curveParams_B = 7 ∧ Secp.Gen.Consts.curveParams_N_neg = false ∧ Secp.Gen.Consts.curveParams_P_neg = false := by
  decide

end Secp.Props.C13
