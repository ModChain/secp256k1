import Secp.Gen.Drivers
import Secp.Proofs.Ecdh
import Secp.Props.C03
import Secp.Proofs.AbsChecked
/-
  Props/C14 — ECDH shared secrets agree on both sides.
  Model: `Secp.Model.ecdhM` (GenerateSharedSecret: ScalarMultNonConst, ToAffine, x as 32 bytes).
  Conditional on `PointSpec`; the group facts come from `Secp.Proofs.SpecGroup` (Mathlib's group law).
  Regenerated: `Secp.Gen.Drivers.generateSharedSecret`, `ecdhMethod`.  The shared lemmas are in `Proofs/Ecdh.lean`.
-/
namespace Secp.Props.C14
open Secp.Spec Secp.Model Secp.Proofs.SpecGroup

/-- the secret computed from a and B = b·G is the x coordinate of (a·b mod N)·G -/
theorem ecdh_spec (hp : PointSpec) (a b : Nat) (ha0 : 0 < a) (ha : a < N) (hb0 : 0 < b) (hb : b < N)
    (x y : Nat) (hB : smul b G = some (x, y)) :
    ∃ sx sy, smul ((a * b) % N) G = some (sx, sy) ∧ ecdhM a (x, y) = be32 sx := by
  have hon : OnCurve x y := by
    have hv := valid_smul b valid_G
    rwa [hB] at hv
  obtain ⟨w, t⟩ := hp.smulA a x y ha hon
  have hnd : ¬ N ∣ (a * b) % N := by
    rw [Nat.dvd_mod_iff (Nat.dvd_refl N)]
    intro h
    rcases (Nat.Prime.dvd_mul Secp.Proofs.N_prime).1 h with h | h
    · exact Nat.not_dvd_of_pos_of_lt ha0 ha h
    · exact Nat.not_dvd_of_pos_of_lt hb0 hb h
  obtain ⟨sx, sy, hs, -⟩ := Secp.Proofs.Ecdh.smul_G_finite _ hnd
  rw [← hB, Secp.Proofs.Ecdh.smul_smul_G, hs] at t
  refine ⟨sx, sy, hs, ?_⟩
  unfold ecdhM
  rw [hp.toAffine _ sx sy w t]

/-- both sides agree -/
theorem ecdh_symmetric (hp : PointSpec) (a b : Nat) (ha0 : 0 < a) (ha : a < N) (hb0 : 0 < b) (hb : b < N)
    (xa ya xb yb : Nat) (hA : smul a G = some (xa, ya)) (hB : smul b G = some (xb, yb)) :
    ecdhM a (xb, yb) = ecdhM b (xa, ya) := by
  obtain ⟨sx, sy, h1, e1⟩ := ecdh_spec hp a b ha0 ha hb0 hb xb yb hB
  obtain ⟨sx', sy', h2, e2⟩ := ecdh_spec hp b a hb0 hb ha0 ha xa ya hA
  rw [Nat.mul_comm b a, h1] at h2
  simp only [Option.some.injEq, Prod.mk.injEq] at h2
  rw [e1, e2, h2.1]

/-- a non-zero private key below N always has a finite public key -/
theorem pubkey_finite (a : Nat) (ha0 : 0 < a) (ha : a < N) : ∃ x y, smul a G = some (x, y) ∧ OnCurve x y :=
  Secp.Proofs.Ecdh.pubkey_finite a ha0 ha

/-! ### unconditional forms -/

theorem ecdh_symmetric_unconditional (a b : Nat) (ha0 : 0 < a) (ha : a < N) (hb0 : 0 < b) (hb : b < N)
    (xa ya xb yb : Nat) (hA : smul a G = some (xa, ya)) (hB : smul b G = some (xb, yb)) :
    ecdhM a (xb, yb) = ecdhM b (xa, ya) :=
  ecdh_symmetric Secp.Props.C03.pointSpec a b ha0 ha hb0 hb xa ya xb yb hA hB

theorem ecdh_spec_unconditional (a b : Nat) (ha0 : 0 < a) (ha : a < N) (hb0 : 0 < b) (hb : b < N)
    (x y : Nat) (hB : smul b G = some (x, y)) :
    ∃ sx sy, smul ((a * b) % N) G = some (sx, sy) ∧ ecdhM a (x, y) = be32 sx :=
  ecdh_spec Secp.Props.C03.pointSpec a b ha0 ha hb0 hb x y hB

/-- Limb level of this property's own functions (as `C01.sign_field_arithmetic_exact`): the regenerated sliced field
    programs of `GenerateSharedSecret` (k·P, ToAffine, Bytes of a normalised x) pass the abstract interpreter on
    every path. -/
theorem ecdh_field_arithmetic_exact :
    Secp.Proofs.Slices.entriesOK ["github.com/ModChain/secp256k1.GenerateSharedSecret", "github.com/ModChain/secp256k1.PrivateKey.ECDH", "github.com/ModChain/secp256k1.PublicKey.AsJacobian"] = true :=
  open Secp.Gen.Slices in
  Secp.Proofs.AbsChecked.entriesOK_of_mem
    [s_GenerateSharedSecret, s_PrivateKey_ECDH, s_PublicKey_AsJacobian]
    (by simp [allSlices])

/-! ### Regenerated drivers (tools/gotr pass T8): the Go functions of this property, as `Secp.Gen.Drivers` has
    them, equal the models above (Props/C01 says what that means and what `DR` is) -/

/-- `GenerateSharedSecret` regenerated = `ecdhM` (the two are the same term once the generated field writes are reduced) -/
theorem generateSharedSecret_regenerated (d : Nat) (Q : Nat × Nat) :
    Secp.Gen.Drivers.generateSharedSecret d Q = ecdhM d Q := by
  unfold Secp.Gen.Drivers.generateSharedSecret ecdhM
  with_reducible rfl

/-- `PrivateKey.ECDH` = `GenerateSharedSecret`, never an error -/
theorem ecdh_front (d : Nat) (Q : Nat × Nat) :
    Secp.Gen.Drivers.ecdhMethod d Q = DR.ok (Secp.Gen.Drivers.generateSharedSecret d Q) := by
  unfold Secp.Gen.Drivers.ecdhMethod
  with_reducible rfl

end Secp.Props.C14
