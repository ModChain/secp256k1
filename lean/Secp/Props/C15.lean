import Secp.Gen.Consts
import Secp.Proofs.DriversAdaptor
import Secp.Proofs.DriversAdaptorNeeds
import Secp.Proofs.Adaptor
import Secp.Props.C03
import Secp.Proofs.AbsChecked
/-
  Props/C15 — the crypto/elliptic adaptor agrees with the group law (and with crypto/ecdsa).
  Model: `Secp.Model.adaptorAdd/adaptorDouble/adaptorScalarMult/adaptorBaseMult/adaptorIsOnCurve`
  (hand-written mirrors of ellipticadaptor.go over naturals).  Conditional on `PointSpec`.
  The crypto/ecdsa interoperability half of the property is differential testing (the harness
  signs with one library and verifies with the other, both directions, and compares converted keys).
  Regenerated: `Secp.Gen.Drivers.adaptorAddGen`, `adaptorDoubleGen`, `adaptorScalarMultGen`, `adaptorScalarBaseMultGen`,
  `adaptorIsOnCurveGen`, `pubKeyX/Y`.  The lemmas the theorems share are in `Proofs/Adaptor.lean` (the model) and
  `Proofs/DriversAdaptor.lean` (the regenerated code).
-/
namespace Secp.Props.C15
open Secp.Spec Secp.Model Secp.Proofs Secp.Proofs.Adaptor

/-- an operand of the adaptor: a curve point with coordinates in [0,P) or the (0,0) identity convention -/
def Operand (p : Nat × Nat) : Prop := (p.1 = 0 ∧ p.2 = 0) ∨ OnCurve p.1 p.2

theorem add_spec (hp : PointSpec) (p q : Nat × Nat) (hP : Operand p) (hQ : Operand q) :
    adaptorAdd p q = xyOfPt (Pt.add (ptOfXY p) (ptOfXY q)) :=
  Secp.Proofs.Adaptor.add_spec hp p q hP hQ

/-- needs no hypothesis about the point layer: `PointOps.doubleNonConst_contract` is a theorem for both register
    layouts of `DoubleNonConst` -/
theorem double_spec (p : Nat × Nat) (hP : Operand p) : adaptorDouble p = xyOfPt (Pt.dbl (ptOfXY p)) := by
  unfold adaptorDouble
  rcases hP with hP | hP
  · rw [if_pos hP.2, ptOfXY_zero hP]
    rfl
  obtain ⟨-, ep⟩ := ptOfXY_onCurve hP
  obtain ⟨w, t⟩ := ScalarMultJac.affine_spec hP
  -- the distinct-result run of `DoubleNonConst` on (x, y, 1): depth 6 + 2 is the budget 8 that `runNamed` gives, and the
  -- contract holds whatever `result` held before, here the model's (0, 0, 0)
  obtain ⟨r, hrun, wr, tr⟩ := PointOps.doubleNonConst_contract 6 _ w
  obtain ⟨regs, ret, hreg, hget⟩ := PointOps.runNamed_of_callE PointOps.idx_DoubleNonConst (hrun false (0, 0, 0))
  rw [if_neg (PubKey.y_ne_zero hP.2.2), ep, bigToField_of_lt hP.1, bigToField_of_lt hP.2.1]
  erw [hreg]
  show jacToBig (Secp.FOp.rget regs 3, Secp.FOp.rget regs 4, Secp.FOp.rget regs 5) = _
  have hl : (PointOps.dblArgs false (p.1, p.2, 1) (0, 0, 0)).length = 6 := rfl
  rw [hget 3 (by omega), hget 4 (by omega), hget 5 (by omega)]
  exact (jacToBig_eq r wr).trans (by rw [tr, t])

/-- scalars of ANY byte length are taken modulo N -/
theorem scalar_of_bytes (k : Bytes) : adaptorScalar k = beNat k % N :=
  Secp.Proofs.Adaptor.scalar_of_bytes k

theorem scalarMult_spec (hp : PointSpec) (p : Nat × Nat) (k : Bytes) (hP : OnCurve p.1 p.2) :
    adaptorScalarMult p k = xyOfPt (smul (beNat k % N) (some p)) :=
  Secp.Proofs.Adaptor.scalarMult_spec hp p k hP

theorem scalarBaseMult_spec (hp : PointSpec) (k : Bytes) :
    adaptorBaseMult k = xyOfPt (smul (beNat k % N) G) :=
  Secp.Proofs.Adaptor.scalarBaseMult_spec hp k

theorem isOnCurve_iff (x y : Nat) (hx : x < P) (hy : y < P) : adaptorIsOnCurve x y = true ↔ OnCurve x y := by
  unfold adaptorIsOnCurve OnCurve
  rw [bigToField_of_lt hx, bigToField_of_lt hy, PubKey.isOnCurveM_iff]
  exact ⟨fun h => ⟨hx, hy, h⟩, fun h => h.2.2⟩

theorem add_spec_unconditional (p q : Nat × Nat) (hP : Operand p) (hQ : Operand q) :
    adaptorAdd p q = xyOfPt (Pt.add (ptOfXY p) (ptOfXY q)) :=
  add_spec Secp.Props.C03.pointSpec p q hP hQ

theorem scalarMult_spec_unconditional (p : Nat × Nat) (k : Bytes) (hP : OnCurve p.1 p.2) :
    adaptorScalarMult p k = xyOfPt (smul (beNat k % N) (some p)) :=
  scalarMult_spec Secp.Props.C03.pointSpec p k hP

theorem scalarBaseMult_spec_unconditional (k : Bytes) :
    adaptorBaseMult k = xyOfPt (smul (beNat k % N) G) :=
  scalarBaseMult_spec Secp.Props.C03.pointSpec k

theorem double_spec_unconditional (p : Nat × Nat) (hP : Operand p) :
    adaptorDouble p = xyOfPt (Pt.dbl (ptOfXY p)) :=
  double_spec p hP

/-- Limb level of this property's own functions (as `C01.sign_field_arithmetic_exact`): the regenerated sliced field
    programs of the big.Int ↔ Jacobian conversions and every adaptor method pass the abstract interpreter on every
    path. -/
theorem adaptor_field_arithmetic_exact :
    Secp.Proofs.Slices.entriesOK ["github.com/ModChain/secp256k1.KoblitzCurve.Add", "github.com/ModChain/secp256k1.KoblitzCurve.Double", "github.com/ModChain/secp256k1.KoblitzCurve.ScalarMult", "github.com/ModChain/secp256k1.KoblitzCurve.ScalarBaseMult", "github.com/ModChain/secp256k1.KoblitzCurve.IsOnCurve", "github.com/ModChain/secp256k1.bigAffineToJacobian", "github.com/ModChain/secp256k1.jacobianToBigAffine", "github.com/ModChain/secp256k1.PublicKey.X", "github.com/ModChain/secp256k1.PublicKey.Y", "github.com/ModChain/secp256k1.PublicKey.ToECDSA", "github.com/ModChain/secp256k1.PrivateKey.ToECDSA"] = true :=
  open Secp.Gen.Slices in
  Secp.Proofs.AbsChecked.entriesOK_of_mem
    [s_KoblitzCurve_Add, s_KoblitzCurve_Double, s_KoblitzCurve_ScalarMult, s_KoblitzCurve_ScalarBaseMult, s_KoblitzCurve_IsOnCurve, s_bigAffineToJacobian, s_jacobianToBigAffine, s_PublicKey_X, s_PublicKey_Y, s_PublicKey_ToECDSA, s_PrivateKey_ToECDSA]
    (by simp [allSlices])

theorem isOnCurve_regenerated (x y : Nat) : Secp.Gen.Drivers.adaptorIsOnCurveGen x y = adaptorIsOnCurve x y := by
  unfold Secp.Gen.Drivers.adaptorIsOnCurveGen Secp.Gen.Drivers.bigAffineToJacobian adaptorIsOnCurve
  simp only [Secp.Proofs.DriversAdaptor.bigToField_eq_raw_mod, Secp.Proofs.DriversAdaptor.isOnCurveM_mod]

/-- `curve.Add` regenerated = the model on the property's domain (coordinates below P) -/
theorem add_regenerated (x1 y1 x2 y2 : Nat) (h1 : x1 < P) (h2 : y1 < P) (h3 : x2 < P) (h4 : y2 < P) :
    Secp.Gen.Drivers.adaptorAddGen x1 y1 x2 y2 = adaptorAdd (x1, y1) (x2, y2) :=
  Secp.Proofs.DriversAdaptor.add_regenerated x1 y1 x2 y2 h1 h2 h3 h4

/-- … and the range hypotheses are NECESSARY: outside [0,P) the code compares raw values.  The witness for `x1`; those
    for `y1`, `x2`, `y2` are `DriversAdaptor.add_needs_*` (Proofs/DriversAdaptorNeeds.lean). -/
theorem add_needs_range :
    Secp.Gen.Drivers.adaptorAddGen (P + 3) 7 3 7 ≠ adaptorAdd (P + 3, 7) (3, 7) := by decide +kernel

theorem double_regenerated (x y : Nat) : Secp.Gen.Drivers.adaptorDoubleGen x y = adaptorDouble (x, y) :=
  Secp.Proofs.DriversAdaptor.double_regenerated' x y

theorem scalarMult_regenerated (x y : Nat) (k : Bytes) (hx : x < P) (hy : y < P) :
    Secp.Gen.Drivers.adaptorScalarMultGen x y k = adaptorScalarMult (x, y) k :=
  Secp.Proofs.DriversAdaptor.scalarMult_regenerated x y k hx hy

theorem scalarBaseMult_regenerated (k : Bytes) : Secp.Gen.Drivers.adaptorScalarBaseMultGen k = adaptorBaseMult k :=
  Secp.Proofs.DriversAdaptor.scalarBaseMult_regenerated k

theorem pubKeyXY_regenerated (p : Nat × Nat) (hx : p.1 < 2^256) (hy : p.2 < 2^256) :
    Secp.Gen.Drivers.pubKeyX p = p.1 ∧ Secp.Gen.Drivers.pubKeyY p = p.2 :=
  ⟨Secp.Proofs.DriversAdaptor.pubKeyX_regenerated p hx, Secp.Proofs.DriversAdaptor.pubKeyY_regenerated p hy⟩

/-- the curve parameters the code reads through `curveParams` / `S256().N` / `Params().N` (regenerated literals, pass T3)
    are the constants of the specification: pass T8 writes `N` / `P` for them on the strength of this theorem -/
theorem curve_params_are_spec :
    Secp.Gen.Consts.curveParams_N = Secp.Spec.N ∧ Secp.Gen.Consts.curveParams_P = Secp.Spec.P ∧
    Secp.Gen.Consts.curveParams_Gx = Secp.Spec.Gx ∧ Secp.Gen.Consts.curveParams_Gy = Secp.Spec.Gy ∧
    Secp.Gen.Consts.curveParams_B = 7 ∧ Secp.Gen.Consts.curveParams_N_neg = false ∧ Secp.Gen.Consts.curveParams_P_neg = false := by
  decide

end Secp.Props.C15
