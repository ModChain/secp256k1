import Secp.Proofs.AbsChecked
import Secp.Proofs.SliceLimb
/-
  Props/C16 — no input makes point or signature arithmetic wrap or compare denormalised.

  `Secp.Gen.Formulas` is REGENERATED from /repo (curve.go, field.go) on every check run: every
  execution path of every point routine as a list of FieldVal operations and predicate tests
  (tools/gotr pass T2, all calls inlined, aliasing expressed by shared registers).  `absPath`
  (Core/FOp.lean) interprets a path over (magnitude bound, normalised?) and fails as soon as
    • NegateVal's magnitude argument is below the operand's magnitude or above 63,
    • an Add/Add2/AddInt/MulInt result would exceed magnitude 63 (uint32 limb capacity with slack),
    • a Mul2/SquareVal operand exceeds magnitude 8,
    • Equals/IsZero/IsOne/IsOdd is applied to a value not known to be normalised,
    • a register is used before it is written.
  Each `_ok` theorem below says: from the routine's input contract ALL paths pass and the listed registers end
  normalised.  For the add, double and ToAffine routines the contract is "operands normalised" and the list is the
  result point; for isOnCurve, DecompressY, Inverse and SquareRootVal the list is empty, and the last three start from
  their documented precondition, an operand of magnitude up to 8.  They are closed by `decide` on the regenerated data
  (evaluated once per routine in `Secp.Proofs.AbsChecked`, which this file and C04 import), so an edit such as
  Negate(16)→Negate(15) or a dropped Normalize() makes this file fail to build.

  Pass T2 renders the same Go routines twice, by one symbolic executor (`genEntry` in tools/gotr/formula.go) with
  calls inlined or kept.  The acceptance theorems here are about `Secp.Gen.Formulas` (calls inlined; `AddNonConst_r1` /
  `_r2`, `DoubleNonConst_r1`: the result object is the first / second operand).  The value-level theorems of Props/C04
  are about `Secp.Gen.FormulasC` (calls kept; the same aliasing patterns are `_a010` / `_a011` / `_a00` there).  No Lean
  theorem relates the two tables, and the differential run exercises `FormulasC` only (the models execute it).

  `Secp.Gen.Slices` is REGENERATED on every run (pass T2s): for every function of the three packages outside field.go and
  the point formulas whose body touches a FieldVal — Verify, sign, RecoverPublicKey, ParsePubKey, the serialisers,
  ScalarMultNonConst and ScalarBaseMultNonConst (prelude and loops), ECDH, the crypto/elliptic adaptor, Schnorr sign /
  verify / parse, the ecckd helpers — the complete list of its execution paths with everything that is not field
  arithmetic sliced away (conditions on scalars, bytes and errors fork the path without an assumption, so the set of
  paths over-approximates the real control flow).  `absS` (Core/FSlice.lean) is `absPath` extended by preconditions of
  limb readers (`chk`: PutBytes, Bytes, IsOddBit, IsGtOrEqPrimeMinusOrder, a returned PublicKey), values entering from
  bytes (`havoc`), contract calls and loop heads.

  What acceptance means for the limb code is `absPath_sound`, `absOK_limbs` and `absS_limb_sound`: `Secp.Model.LimbExec`
  runs a program on registers of ten uint32 limbs, every FieldVal method by its REGENERATED limb kernel under Go
  wrap-around semantics, and `Rel σ rl rv` says that the limb registers `rl` realise the abstract state σ and denote the
  field values `rv`.
-/
namespace Secp.Props.C16
open Secp.FOp Secp.Gen.Formulas Secp.Proofs.AbsChecked

def nrm : Option AV := some (1, true)
/-- unfolds to `AbsChecked.nrmIn n`, the start state of the evaluated facts cited below -/
def normalisedInputs (n : Nat) : AState := List.replicate n nrm

theorem addZ1AndZ2EqualsOne_ok : addZ1AndZ2EqualsOne.absOK (normalisedInputs 9) [6, 7, 8] = true := Secp.Proofs.AbsChecked.addZ1AndZ2EqualsOne_ok
theorem addZ1EqualsZ2_ok : addZ1EqualsZ2.absOK (normalisedInputs 9) [6, 7, 8] = true := Secp.Proofs.AbsChecked.addZ1EqualsZ2_ok
theorem addZ2EqualsOne_ok : addZ2EqualsOne.absOK (normalisedInputs 9) [6, 7, 8] = true := Secp.Proofs.AbsChecked.addZ2EqualsOne_ok
theorem addGeneric_ok : addGeneric.absOK (normalisedInputs 9) [6, 7, 8] = true := Secp.Proofs.AbsChecked.addGeneric_ok
theorem doubleZ1EqualsOne_ok : doubleZ1EqualsOne.absOK (normalisedInputs 6) [3, 4, 5] = true := Secp.Proofs.AbsChecked.doubleZ1EqualsOne_ok
theorem doubleGeneric_ok : doubleGeneric.absOK (normalisedInputs 6) [3, 4, 5] = true := Secp.Proofs.AbsChecked.doubleGeneric_ok
theorem AddNonConst_ok : AddNonConst.absOK (normalisedInputs 9) [6, 7, 8] = true :=
  absOK_of_absPost _ _ _ _ (by decide) AddNonConst_post
theorem AddNonConst_r1_ok : AddNonConst_r1.absOK (normalisedInputs 6) [0, 1, 2] = true :=
  absOK_of_absPost _ _ _ _ (by decide) AddNonConst_r1_post
theorem AddNonConst_r2_ok : AddNonConst_r2.absOK (normalisedInputs 6) [3, 4, 5] = true :=
  absOK_of_absPost _ _ _ _ (by decide) AddNonConst_r2_post
theorem DoubleNonConst_ok : DoubleNonConst.absOK (normalisedInputs 6) [3, 4, 5] = true :=
  absOK_of_absPost _ _ _ _ (by decide) DoubleNonConst_post
theorem DoubleNonConst_r1_ok : DoubleNonConst_r1.absOK (normalisedInputs 3) [0, 1, 2] = true :=
  absOK_of_absPost _ _ _ _ (by decide) DoubleNonConst_r1_post
/-- ToAffine (with the 258-squaring inversion chain inlined): X, Y, Z end normalised -/
theorem ToAffine_ok : ToAffine.absOK (normalisedInputs 3) [0, 1, 2] = true := Secp.Proofs.AbsChecked.ToAffine_ok
theorem isOnCurve_ok : isOnCurve.absOK (normalisedInputs 2) [] = true := Secp.Proofs.AbsChecked.isOnCurve_ok
/-- DecompressY accepts an x of magnitude up to 8 (its documented contract) -/
theorem DecompressY_ok : DecompressY.absOK [some (8, false), none] [] = true := Secp.Proofs.AbsChecked.DecompressY_ok
theorem Inverse_ok : Inverse.absOK [some (8, false)] [] = true :=
  absOK_of_absPost _ _ _ _ (by decide) Inverse_post
theorem SquareRootVal_ok : SquareRootVal.absOK [none, some (8, false)] [] = true :=
  absOK_of_absPost _ _ _ _ (by decide) SquareRootVal_post

/-- If the abstract interpreter accepts a program from σ, then for ALL limb registers realising σ the
    limb-level run and the value-level run take the same branches and end in related states: no limb
    wraps, every comparison sees a normalised value, and the results depend only on the field values
    the operands denote — not on their limb representation.  (Proved from the C05 kernel theorems.) -/
theorem absPath_sound (items : List PItem) (σ σ' : AState) (rl : Secp.Model.LRegs) (rv : Regs) (bools : List Bool)
    (hcf : Secp.Proofs.AbsSound.CallFree items) (hir : Secp.Proofs.AbsSound.InRange rl.length items)
    (habs : absPath items σ = some σ') (hrel : Secp.Model.Rel σ rl rv) :
    (Secp.Model.execPathL bools items rl = none ↔ execPathWith (fun _ _ => none) bools items rv = none) ∧
    ∀ rl' rv', Secp.Model.execPathL bools items rl = some rl' →
      execPathWith (fun _ _ => none) bools items rv = some rv' → Secp.Model.Rel σ' rl' rv' :=
  Secp.Proofs.AbsSound.absPath_sound items σ σ' rl rv bools hcf hir habs hrel

def entryInRange (e : Entry) : Bool := e.paths.all fun p => decide (Secp.Proofs.AbsSound.InRange e.nreg p.items)

theorem all_in_range : (allEntries.all entryInRange) = true := by decide +kernel

theorem absOK_limbs (e : Entry) (he : e ∈ allEntries) (σ0 : AState) (outs : List Nat)
    (hok : e.absOK σ0 outs = true) (bools : List Bool) (p : FPath) (hp : p ∈ e.paths)
    (rl : Secp.Model.LRegs) (rv : Regs) (hlen : rl.length = e.nreg) (hrel : Secp.Model.Rel σ0 rl rv) :
    ∃ σ', absPath p.items σ0 = some σ' ∧
      ((Secp.Model.execPathL bools p.items rl = none ↔ execPathWith (fun _ _ => none) bools p.items rv = none) ∧
       ∀ rl' rv', Secp.Model.execPathL bools p.items rl = some rl' →
         execPathWith (fun _ _ => none) bools p.items rv = some rv' → Secp.Model.Rel σ' rl' rv') := by
  have hp' := List.all_eq_true.mp hok p hp
  cases hσ : absPath p.items σ0 with
  | none => rw [hσ] at hp'; cases hp'
  | some σ' =>
    have hir : Secp.Proofs.AbsSound.InRange rl.length p.items :=
      hlen ▸ of_decide_eq_true (List.all_eq_true.mp (List.all_eq_true.mp all_in_range e he) p hp)
    exact ⟨σ', rfl, Secp.Proofs.AbsSound.absPath_sound' p.items _ σ' rl rv bools hir hσ hrel⟩

/-- e.g. AddNonConst with the result aliasing its first operand -/
theorem AddNonConst_r1_limbs (p : FPath) (hp : p ∈ AddNonConst_r1.paths) (rl : Secp.Model.LRegs) (rv : Regs)
    (hlen : rl.length = AddNonConst_r1.nreg) (hrel : Secp.Model.Rel (normalisedInputs 6) rl rv) :
    ∃ σ', absPath p.items (normalisedInputs 6) = some σ' ∧
      ((Secp.Model.execPathL [] p.items rl = none ↔ execPathWith (fun _ _ => none) [] p.items rv = none) ∧
       ∀ rl' rv', Secp.Model.execPathL [] p.items rl = some rl' →
         execPathWith (fun _ _ => none) [] p.items rv = some rv' → Secp.Model.Rel σ' rl' rv') :=
  absOK_limbs _ (by simp [allEntries]) _ _ AddNonConst_r1_ok [] p hp rl rv hlen hrel

/-- Every path of every sliced function passes: no Negate with too small a magnitude, no Add/MulInt
    beyond uint32 capacity, no Mul/Square operand above magnitude 8, no Equals / IsZero / IsOdd /
    PutBytes / Bytes / IsGtOrEqPrimeMinusOrder on a value not known to be normalised, every loop
    body returns to a state covered by the loop head, every called routine's precondition holds,
    and every returned public key / result point is normalised. -/
theorem slices_ok : Secp.Gen.Slices.allSlices.all (SEntry.ok Secp.Gen.Slices.contracts) = true :=
  allSlices_ok

/-- Every contract used at a call site is justified by re-running the interpreter on ALL paths of the
    callee from the contract's precondition: AddNonConst (three aliasing patterns), DoubleNonConst
    (two), Inverse, SquareRootVal on the T2 programs; ScalarMultNonConst and ScalarBaseMultNonConst
    on their sliced programs. -/
theorem contracts_justified :
    Secp.Gen.Slices.contracts.all (Secp.Proofs.Slices.justifiedBy Secp.Gen.Slices.contracts) = true := by
  simp only [Secp.Gen.Slices.contracts, List.all_cons, List.all_nil, Bool.and_true, Bool.and_eq_true]
  -- one component per contract, in the order of `Gen.Slices.contracts`; the number is the callee's position in
  -- `Gen.Formulas.allEntries` (`rfl` reads the entry there, `decide +kernel` checks that the name lookup lands on it)
  exact ⟨justifiedBy_formula _ _ 0 _ (by decide +kernel) rfl AddNonConst_post,
    justifiedBy_formula _ _ 1 _ (by decide +kernel) rfl AddNonConst_r1_post,
    justifiedBy_formula _ _ 2 _ (by decide +kernel) rfl AddNonConst_r2_post,
    justifiedBy_formula _ _ 4 _ (by decide +kernel) rfl DoubleNonConst_post,
    justifiedBy_formula _ _ 5 _ (by decide +kernel) rfl DoubleNonConst_r1_post,
    -- ScalarMultNonConst, ScalarBaseMultNonConst: sliced entries, `justifiedBy` evaluated as a whole
    by decide +kernel, by decide +kernel,
    justifiedBy_formula _ _ 6 _ (by decide +kernel) rfl Inverse_post,
    justifiedBy_formula _ _ 7 _ (by decide +kernel) rfl SquareRootVal_post⟩

/-- The regenerated table really contains the signature routines the property names (an edit that
    moves one of them out of the translator's reach is a broken obligation, not a silent gap). -/
theorem slices_cover :
    (["github.com/ModChain/secp256k1.Signature.Verify", "github.com/ModChain/secp256k1.sign",
      "github.com/ModChain/secp256k1.Signature.RecoverPublicKey", "github.com/ModChain/secp256k1.ParsePubKey",
      "github.com/ModChain/secp256k1.PublicKey.SerializeCompressed", "github.com/ModChain/secp256k1.PublicKey.SerializeUncompressed",
      "github.com/ModChain/secp256k1.ScalarMultNonConst", "github.com/ModChain/secp256k1.ScalarBaseMultNonConst",
      "github.com/ModChain/secp256k1.GenerateSharedSecret", "github.com/ModChain/secp256k1.PrivateKey.PubKey",
      "github.com/ModChain/secp256k1.KoblitzCurve.Add", "github.com/ModChain/secp256k1.KoblitzCurve.Double",
      "github.com/ModChain/secp256k1.KoblitzCurve.ScalarMult", "github.com/ModChain/secp256k1.KoblitzCurve.ScalarBaseMult",
      "github.com/ModChain/secp256k1.KoblitzCurve.IsOnCurve",
      "github.com/ModChain/secp256k1/schnorr.schnorrVerify", "github.com/ModChain/secp256k1/schnorr.schnorrSign",
      "github.com/ModChain/secp256k1/schnorr.ParseSignature", "github.com/ModChain/secp256k1/schnorr.Signature.Serialize",
      "github.com/ModChain/secp256k1/ecckd.ExtendedKey.ChildWithIL"].all
        fun n => Secp.Gen.Slices.allSlices.any fun e => e.name == n) = true :=
  open Secp.Gen.Slices in
  names_cover
    [s_Signature_Verify, s_sign, s_Signature_RecoverPublicKey, s_ParsePubKey,
      s_PublicKey_SerializeCompressed, s_PublicKey_SerializeUncompressed, s_ScalarMultNonConst,
      s_ScalarBaseMultNonConst, s_GenerateSharedSecret, s_PrivateKey_PubKey, s_KoblitzCurve_Add,
      s_KoblitzCurve_Double, s_KoblitzCurve_ScalarMult, s_KoblitzCurve_ScalarBaseMult,
      s_KoblitzCurve_IsOnCurve, s_schnorr_schnorrVerify, s_schnorr_schnorrSign,
      s_schnorr_ParseSignature, s_schnorr_Signature_Serialize, s_ecckd_ExtendedKey_ChildWithIL]
    (by simp [allSlices])

/-- `havoc d 1 true` for the 32 bytes written by ModNScalar.PutBytes: a canonical scalar is a
    canonical field value. -/
theorem scalar_bytes_are_normalised : Secp.Spec.N < Secp.Spec.P := by decide

/-- On a path of T2 items only (no `chk`, `havoc`, contract call or loop marker) `absS` is `absPath` (so
    `absPath_sound` applies to the segments of a sliced path between such items). -/
theorem absS_plain (cs : List Contract) : ∀ (items : List PItem) (σ : AState) (st : List AState),
    absS cs (items.map SItem.p) σ st = absPath items σ
  | [], _, _ => rfl
  | .op o :: rest, σ, st => by
    simp only [List.map_cons, absS, absPath]
    cases stepA σ o with
    | none => rfl
    | some σ' => simpa using absS_plain cs rest σ' st
  | .assume c v :: rest, σ, st => by
    simp only [List.map_cons, absS, absPath]
    split
    · exact absS_plain cs rest σ st
    · rfl
  | .call _ _ :: _, _, _ => by simp [absS, absPath]

/-- monotonicity in the covering order (smaller magnitudes, more registers normalised): what makes a loop head state
    and a call contract sound summaries -/
theorem absS_mono (cs : List Contract) (items : List SItem) (hf : ∀ it ∈ items, Secp.Proofs.SliceSound.flat it = true)
    (σ1 σ2 σ2' : AState) (hc : Secp.Proofs.SliceSound.Cover σ1 σ2) (h : absS cs items σ2 [] = some σ2') :
    ∃ σ1', absS cs items σ1 [] = some σ1' ∧ Secp.Proofs.SliceSound.Cover σ1' σ2' :=
  Secp.Proofs.SliceSound.absS_mono cs items hf σ1 σ2 σ2' hc h

/-- One symbolic iteration per loop — what T2s extracts from ScalarMultNonConst and ScalarBaseMultNonConst — decides all
    iteration counts: every concrete unrolling (any n ≥ 0, bodies in any order, repetitions allowed) is a marker-free
    path, to which `absS_limb_sound` applies. -/
theorem loop_unroll (cs : List Contract) (pre post : List SItem) (bodies : List (List SItem))
    (hpre : ∀ it ∈ pre, Secp.Proofs.SliceSound.flat it = true) (hpost : ∀ it ∈ post, Secp.Proofs.SliceSound.flat it = true)
    (hb : ∀ b ∈ bodies, ∀ it ∈ b, Secp.Proofs.SliceSound.flat it = true) (σ σf : AState) (hne : bodies ≠ [])
    (hacc : ∀ b ∈ bodies, absS cs (pre ++ [SItem.loopBegin] ++ b ++ [SItem.loopEnd] ++ post) σ [] = some σf)
    (trace : List (List SItem)) (htr : ∀ b ∈ trace, b ∈ bodies) :
    ∃ σ', absS cs (pre ++ trace.flatten ++ post) σ [] = some σ' ∧ Secp.Proofs.SliceSound.Cover σ' σf :=
  Secp.Proofs.SliceSound.loop_unroll cs pre post bodies hpre hpost hb σ σf hne hacc trace htr

/-- LIMB-LEVEL MEANING of the sliced interpreter (loop-free paths).  `ExecS … strict` is the paired limb / value execution
    of a sliced path: field operations by the REGENERATED limb kernels (`stepL`) and by their value-level meaning (`stepF`),
    `assume` taken on both sides, `havoc` and the results of contract calls replaced by ARBITRARY limb values realising the
    stated abstract value.  With `strict = true` every `chk` must hold on the limbs (the value read by PutBytes / Bytes /
    IsOddBit / IsGtOrEqPrimeMinusOrder, or stored in a returned PublicKey, is within its magnitude and normalised) and every
    callee's precondition must hold on the limbs.  The theorem: if `absS` accepts the path, then for ALL limb registers
    realising the input contract EVERY lax execution is a strict one, and it ends with limbs and values still related —
    no field operation wrapped, every comparison saw normalised operands. -/
theorem absS_limb_sound (cs : List Contract) (bools : List Bool) (items : List SItem) (σ σ' : AState)
    (rl : Secp.Model.LRegs) (rv : Regs) (s' : Secp.Model.LRegs × Regs)
    (hir : Secp.Proofs.SliceLimb.SInRange rl.length items)
    (habs : absS cs items σ [] = some σ') (hrel : Secp.Model.Rel σ rl rv)
    (hex : Secp.Proofs.SliceLimb.ExecS cs bools false items (rl, rv) s') :
    Secp.Proofs.SliceLimb.ExecS cs bools true items (rl, rv) s' ∧ Secp.Model.Rel σ' s'.1 s'.2 :=
  Secp.Proofs.SliceLimb.absS_limb_sound cs bools items σ σ' rl rv s' hir habs hrel hex

theorem assume_agree (σ : AState) (c : FCond) (rl : Secp.Model.LRegs) (rv : Regs) (bools : List Bool)
    (hrel : Secp.Model.Rel σ rl rv) (hc : condA σ c = true) : Secp.Model.condL rl bools c = condF rv bools c :=
  Secp.Proofs.AbsSound.cond_sound σ c rl rv bools hc hrel

/-- non-vacuity of the sliced interpreter: Verify's step 8 without Normalize is rejected, with it accepted;
    a loop whose body raises the magnitude is rejected -/
example : absS [] [.havoc 0 1 true, .havoc 1 1 true, .p (.op (.mul2 2 0 1)), .p (.assume (.equals 2 1) true)] [] [] = none := by decide
example : (absS [] [.havoc 0 1 true, .havoc 1 1 true, .p (.op (.mul2 2 0 1)), .p (.op (.norm 2)), .p (.assume (.equals 2 1) true)] [] []).isSome = true := by decide
example : absS [] [.havoc 0 1 true, .havoc 1 1 true, .loopBegin, .p (.op (.add 0 1)), .loopEnd] [] [] = none := by decide
example : (absS [] [.havoc 0 1 true, .havoc 1 1 true, .loopBegin, .p (.op (.add 0 1)), .p (.op (.norm 0)), .loopEnd, .chk 0 1 true] [] []).isSome = true := by decide

/-- the checker is not vacuous: it rejects the doubling formula with Negate(15) in place of Negate(16) -/
example : absPath [.op (.mulInt 0 8), .op (.mulInt 0 2), .op (.neg 0 0 15)] [nrm] = none := by decide
example : absPath [.op (.mulInt 0 8), .op (.mulInt 0 2), .op (.neg 0 0 16)] [nrm] = some [some (17, false)] := by decide
/-- … and a comparison of a denormalised value -/
example : absPath [.op (.add 0 1), .assume (.equals 0 1) true] [nrm, nrm] = none := by decide

end Secp.Props.C16
