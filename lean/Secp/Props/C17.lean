import Secp.Gen.Shared
/-
  Props/C17 — all operations are safe and deterministic under concurrent use  (PARTIAL: see below).

  `Secp.Gen.Shared` is REGENERATED from /repo (all three packages) on every check run by tools/gotr
  pass T6: the inventory of shared roots (package-level variables and state captured by
  package-level function values — the base-point table lives in such a closure), every store whose
  target is rooted in one of them, every call that hands such memory to a parameter the callee may
  write through (write summaries are closed over calls; locals that alias parameters or shared
  memory are resolved flow-insensitively), and the construct guarding each of these writes.  A
  pointer-receiver method of ANOTHER package called on shared memory (e.g. atomic.Pointer.Store)
  counts as a write unless it is a known synchronisation primitive or read-only accessor; and every
  READ of a root that is written under sync.Once is listed with guard `.once` only when it is
  ordered after an unconditional `Once.Do` statement of the same body (the accessor shape
  `Do(init); return data` which the interleaving model's `onceDo` event stands for) — a lock-free
  fast path that reads the pointer before `Do` is a fact with guard `.none`.

  Partial because: the interleaving model is sequentially consistent (the Go memory model,
  the runtime and sync.Once's implementation are trusted), T6's may-alias approximation ignores
  interfaces, function values and unsafe, and plain function calls into other packages are assumed not to write
  through their arguments.  A `-race` run of the real code from a fresh process supports it.
  The interleaving model (`St`, `Ev`, `run`, `Inv`) and the check `readOnlyAfterInit` are definitions of
  `Core/Conc.lean`; the proofs are in this file.
-/
namespace Secp.Props.C17
open Secp.Conc Secp.Gen.Shared

/-- every write into shared memory found in the source happens during package initialisation or
    inside the function passed to sync.Once.Do, and every read of once-initialised memory is ordered
    after the Once.Do call -/
theorem read_only_after_init : readOnlyAfterInit facts = true := by decide

theorem step_inv (v : Nat) (s : St) (tid : Nat) (e : Ev) (he : e = .onceDo v ∨ e = .read)
    (hdo : e = .read → s.data ≠ none) (h : Inv v s) : Inv v (stepEv s tid e) := by
  unfold Secp.Conc.Inv at h ⊢
  rcases he with rfl | rfl <;> rcases h with ⟨hd, hi, ho⟩ | ⟨hd, hi, ho⟩ <;>
    simp_all [stepEv] <;> exact ho

/-- threads in which every `read` comes after an `onceDo` of the same thread: the accessor pattern
    (`loadBytePointsOnce.Do(load); return data`) -/
def Accessor (v : Nat) : List Ev → Prop
  | [] => True
  | e :: rest => e = .onceDo v ∧ ∀ e' ∈ rest, e' = .onceDo v ∨ e' = .read

/-- what is left of a thread in state `s`: `onceDo v` and `read` only, and a `read` comes first only once the data is set -/
def Pending (v : Nat) (s : St) (th : List Ev) : Prop :=
  (∀ e ∈ th, e = .onceDo v ∨ e = .read) ∧ (th.head? = some .read → s.data ≠ none)

theorem Accessor.pending {v : Nat} {th : List Ev} (h : Accessor v th) (s : St) : Pending v s th := by
  cases th with
  | nil => exact ⟨nofun, nofun⟩
  | cons e rest =>
    obtain ⟨rfl, hr⟩ := h
    exact ⟨fun e' he' => (List.mem_cons.1 he').elim (· ▸ .inl rfl) (hr e'), nofun⟩

/-- For EVERY schedule of any number of threads of which `onceDo v` and `read` are left, no `read` first while the data
    is unset: the initialiser body runs at most once, and every value any thread ever observes is the fully initialised
    one — never nil, never a second table. -/
theorem once_init (v : Nat) (sched : List Nat) (threads : List (List Ev)) (s : St)
    (hinv : Inv v s) (hth : ∀ th ∈ threads, Pending v s th) : Inv v (run sched threads s) := by
  induction sched generalizing threads s with
  | nil => exact hinv
  | cons t sched ih =>
    simp only [run]
    split
    · next e rest hget =>
      obtain ⟨hall, hrd⟩ := hth _ (List.mem_of_getElem? hget)
      have he := hall e (.head _)
      have hdo : e = .read → s.data ≠ none := fun er => hrd (er ▸ rfl)
      -- after the step data is initialised, so every thread may read first
      have hdata : (stepEv s t e).data ≠ none := by
        rcases he with rfl | rfl
        · cases hd : s.data <;> simp [stepEv, hd]
        · simpa [stepEv] using hdo rfl
      refine ih _ _ (step_inv v s t e he hdo hinv) fun th' hth' => ⟨?_, fun _ => hdata⟩
      rcases List.mem_or_eq_of_mem_set hth' with hold | rfl
      · exact (hth th' hold).1
      · exact fun e' he' => hall e' (.tail _ he')
    · exact ih threads s hinv hth

/-- corollary for a fresh process: from the initial state, whatever the schedule, at most one
    initialisation happens and all observations agree -/
theorem once_init_fresh (v : Nat) (sched : List Nat) (threads : List (List Ev))
    (hth : ∀ th ∈ threads, Accessor v th) :
    let s := run sched threads St.init
    s.inits ≤ 1 ∧ ∀ o ∈ s.obs, o.2 = some v := by
  have h := once_init v sched threads St.init (Or.inl ⟨rfl, rfl, rfl⟩) (fun th h => (hth th h).pending _)
  rcases h with ⟨_, hi, ho⟩ | ⟨_, hi, ho⟩
  · exact ⟨by omega, by simp [ho]⟩
  · exact ⟨by omega, ho⟩

/-- the model is not vacuous: with an unsynchronised nil-check in place of sync.Once, a 2-thread
    schedule runs the initialiser twice -/
example : (run [0, 1, 0, 1] [[.unsyncInit 7, .unsyncInit 7], [.unsyncInit 7, .unsyncInit 7]] St.init).inits = 2 := by decide

example : Accessor 7 [.onceDo 7, .read, .read] := by simp [Accessor]

end Secp.Props.C17
