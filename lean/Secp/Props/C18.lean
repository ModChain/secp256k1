import Secp.Gen.CTGen
/-
  Props/C18 — operations documented as constant time have no operand-dependent control flow.

  `Secp.Gen.CTGen.fns` is REGENERATED from /repo on every check run (tools/gotr pass T5): every
  function whose doc comment says "in constant time" (and not "NOT constant time"), plus every
  package function reachable from one of them through calls, as statement lists in which branch
  conditions, loop bounds, short-circuit operators, index expressions, slice bounds, shift counts,
  division operands and call targets are explicit.  Variables and fields are secret; constants and
  len/cap are public.  The check `ctOKS`, the leakage semantics `leakBody` and the soundness proof `Secp.CT.ct_sound`
  are in `Core/CT.lean`; the table is evaluated here.
-/
namespace Secp.Props.C18
open Secp.CT Secp.Gen.CTGen

/-- Non-interference: for a body accepted by the syntactic check, the sequence of leaked values
    (branch outcomes, indices, slice bounds, shift counts, division operands, callees) is identical
    for any two interpretations that differ only in the values of the secret leaves. -/
theorem ct_sound (I J : Interp) (h : SameButSecrets I J) (body : List Stmt) (n : Nat)
    (hok : body.all ctOKS = true) : leakBody I n body = leakBody J n body :=
  Secp.CT.ct_sound I J h body n hok

/-- every regenerated function passes the check, and every call target is another function of the
    table or an intrinsic (`ctIntrinsics` in tools/gotr/ct.go: copy, len, cap, new, append0, bits.Mul64, bits.Add64,
    conversions) -/
theorem table_ok : tableOK fns = true := by decide +kernel

/-- consequently each function body in the table has secret-independent leakage.  A call leaks the callee's id
    only: what the callee does is its own entry of the table (`callsOK`: every id is below `fns.length` or an
    intrinsic's, 100000 + k in tools/gotr/ct.go), to which this theorem applies in turn. -/
theorem all_noninterfering (I J : Interp) (h : SameButSecrets I J) (f : Fn) (hf : f ∈ fns) (n : Nat) :
    leakBody I n f.body = leakBody J n f.body := by
  have hall : fns.all (Fn.ctOK fns.length) = true := table_ok
  have hfok := List.all_eq_true.mp hall f hf
  apply ct_sound I J h
  unfold Fn.ctOK at hfok
  rw [List.all_eq_true] at hfok ⊢
  intro s hs
  exact (Bool.and_eq_true_iff.mp (hfok s hs)).1

/-- the number of operations whose documentation promises constant time (the property says 64).  `documented` is
    the count tools/gotr writes beside the table, not computed from `fns` in Lean. -/
theorem documented_count : documented = 64 := by decide

/-- A callee outside the package and outside the intrinsic list is emitted with id 999999, which `callsOK`, hence
    `table_ok`, refuses already; `unknownCalls` is the generator's own count of them, like `documented`. -/
theorem no_unknown_calls : unknownCalls = 0 := by decide

-- the checker is not vacuous: a secret-dependent branch, index or short-circuit operand is rejected, a public index
-- into secret data accepted
example : ctOKS (.ctrl (.bin .sec .pub)) = false := by decide
example : ctOKS (.eval (.idx .sec .sec)) = false := by decide
example : ctOKS (.eval (.idx .sec .pub)) = true := by decide
example : ctOKS (.eval (.sc .sec .sec)) = false := by decide

end Secp.Props.C18
