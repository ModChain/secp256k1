import Secp.Proofs.DriversKeygen
import Secp.Proofs.PrivKey
/-
  Props/C19 — generated and parsed private keys are always in range and unbiased; "unbiased" is proved as: the key
  is the first 32-byte block in range, earlier blocks are discarded, never reduced (`keygen_first_valid`).
  Model: `Secp.Model.generatePrivateKey` etc. (hand-written mirror of privkey.go, with the reader an explicit
  value).  Regenerated: `Secp.Gen.Drivers.generatePrivateKey`, `privKeyFromBytes`, proved equal to the model at the
  end of the file.  The lemmas the theorems share are in `Proofs/PrivKey.lean` (the model) and
  `Proofs/DriversKeygen.lean` (the regenerated code).
-/
namespace Secp.Props.C19
open Secp.Spec Secp.Model Secp.Proofs.PrivKey

def block (data : Bytes) (j : Nat) : Bytes := (data.drop (32 * j)).take 32

def ValidBlock (b : Bytes) : Prop := 0 < beNat b ∧ beNat b < N

/-- Success: the key is exactly the first valid whole block, nothing beyond it is consumed,
    and every earlier block was discarded (never reduced). -/
theorem keygen_first_valid (r : Reader) (k used : Nat) :
    generatePrivateKey r = (.ok k, used) ↔
      ∃ j, 32 * (j + 1) ≤ r.data.length ∧ ValidBlock (block r.data j) ∧
           (∀ i < j, ¬ ValidBlock (block r.data i)) ∧
           k = beNat (block r.data j) ∧ used = 32 * (j + 1) := by
  unfold ValidBlock block generatePrivateKey
  rcases go_spec (r.data.length / 32 + 1) r.data r.term (by omega) with ⟨j, hj, hv, hall, e⟩ | ⟨hnone, e⟩
  · rw [e]
    constructor
    · intro h
      simp only [Prod.mk.injEq, Except.ok.injEq] at h
      exact ⟨j, hj, hv, hall, h.1.symm, h.2.symm⟩
    · rintro ⟨j', hj', hv', hall', rfl, rfl⟩
      -- both are the first valid block
      have : j' = j := by
        rcases Nat.lt_trichotomy j' j with h | h | h
        · exact absurd hv' (hall j' h)
        · exact h
        · exact absurd hv (hall' j h)
      rw [this]
  · rw [e]
    exact ⟨fun h => by simp at h, by rintro ⟨j, hj, hv, -⟩; exact absurd hv (hnone j hj)⟩

theorem keygen_in_range (r : Reader) (k used : Nat) (h : generatePrivateKey r = (.ok k, used)) :
    0 < k ∧ k < N := by
  obtain ⟨j, _, hv, _, hk, _⟩ := (keygen_first_valid r k used).1 h
  rw [hk]; exact hv

/-- Failure: when no whole block of the stream is valid, the result is no key but the
    read error with io.ReadFull semantics: the reader's own error when the stream ended on a
    block boundary, `ErrUnexpectedEOF` for EOF inside a block, the reader's error otherwise;
    and the whole stream has been consumed. -/
theorem keygen_error (r : Reader)
    (hnone : ∀ j, 32 * (j + 1) ≤ r.data.length → ¬ ValidBlock (block r.data j)) :
    generatePrivateKey r =
      (.error (if r.data.length % 32 = 0 then r.term
               else if r.term = .eof then .unexpectedEOF else r.term), r.data.length) := by
  unfold generatePrivateKey
  rcases go_spec (r.data.length / 32 + 1) r.data r.term (by omega) with ⟨j, hj, hv, -, -⟩ | ⟨-, e⟩
  · exact absurd hv (hnone j hj)
  · rw [e]

theorem fromBytes_serialize (b : Bytes) :
    privKeySerialize (privKeyFromBytes b) = be32 (beNat (b.take 32) % N) := by
  rw [fromBytes_mod]; rfl

theorem fromBytes_lt (b : Bytes) : privKeyFromBytes b < N := by
  rw [fromBytes_mod]; exact Nat.mod_lt _ (by decide)

theorem zero_spec (k : Nat) : privKeyZero k = 0 := rfl

-- non-vacuity: a stream whose first block is 0 (discarded) and second block is 1
example : generatePrivateKey ⟨List.replicate 32 0 ++ (List.replicate 31 0 ++ [1]), .eof⟩ = (.ok 1, 64) := by
  decide
example : generatePrivateKey ⟨List.replicate 33 0, .eof⟩ = (.error .unexpectedEOF, 33) := by decide

/-- `generatePrivateKey` (privkey.go) regenerated: same result as the model for EVERY reader, and the reader is
    left exactly as many bytes shorter as the model says were consumed -/
theorem generatePrivateKey_regenerated (rd : Reader) :
    (Secp.Gen.Drivers.generatePrivateKey rd).1
        = (match (Secp.Model.generatePrivateKey rd).1 with | .ok k => DR.ok k | .error e => DR.err e)
      ∧ rd.data.length - (Secp.Gen.Drivers.generatePrivateKey rd).2.data.length
        = (Secp.Model.generatePrivateKey rd).2 :=
  Secp.Proofs.DriversKeygen.generatePrivateKey_regenerated rd

theorem privKeyFromBytes_regenerated (b : Bytes) :
    Secp.Gen.Drivers.privKeyFromBytes b = Secp.Model.privKeyFromBytes b :=
  Secp.Proofs.DriversKeygen.privKeyFromBytes_regenerated b

theorem generatePrivateKeyFromRand_front (r : Reader) :
    Secp.Gen.Drivers.generatePrivateKeyFromRand r = Secp.Gen.Drivers.generatePrivateKey r := rfl

end Secp.Props.C19
