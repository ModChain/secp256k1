import Secp.Proofs.Total
import Secp.Props.C08
import Secp.Props.C09
import Secp.Proofs.Buffers
/-
  Props/C20 — parsers and verifiers are total, pure and leave caller data untouched.

  "Never panics": the models in `Model/Total.lean` (and `parseDER`, `parsePubKey`, proved in C09/C08)
  make every Go index/slice expression explicit and return `panic` where Go would; the theorems say
  that outcome is impossible for EVERY byte string, and that the explicit models agree with the total
  models used by the other properties.  "Pure / arguments untouched / history-free": every model is a
  function of its arguments; for the CODE this is checked by the correspondence run (argument
  snapshots around every call, recover() around every call, repeated calls in shuffled orders), and
  by C17's regenerated facts (no entry point writes shared state).  Termination of the model functions
  is Lean's own totality check; the two unbounded Go loops (RFC 6979 candidates, sign retry) are
  modelled with fuel (see C01/C10).  Documented panics on API misuse (RecoverPublicKey on a signature
  built without a recovery code, ExtendedKey.ToECDSA on a public key) are outside the property.
  The shared lemmas are in `Proofs/Total.lean` and `Proofs/Buffers.lean` (stores into zeroed buffers); how a read
  whose bound holds is removed is in `Model/Outcome.lean`.
-/
namespace Secp.Props.C20
open Secp.Spec Secp.Model Secp.Proofs Secp.Proofs.Total

theorem setByteSlice_total (b : Bytes) :
    setByteSliceO b = .ok (List.replicate (32 - min b.length 32) 0 ++ b.take 32) := by
  have ht : (b.take (min b.length 32)).drop 0 = b.take 32 := by
    rw [List.drop_zero, List.take_eq_take_iff]; omega
  have hl : (b.take 32).length = min b.length 32 := by rw [List.length_take]; omega
  unfold setByteSliceO
  dsimp only
  rw [slice_ok (Nat.zero_le _) (Nat.min_le_left b.length 32), Outcome.bind_ok, ht, hl,
    slice_ok (Nat.zero_le _) (by rw [List.length_replicate]; omega), Outcome.bind_ok,
    sliceFrom_ok (by rw [List.length_replicate]; omega), Outcome.bind_ok, Outcome.pure_eq]

/-- the explicit SetByteSlice agrees with the value-level reading used everywhere else -/
theorem setByteSlice_value (b : Bytes) :
    ∃ b32, setByteSliceO b = .ok b32 ∧ b32.length = 32 ∧ scalarSetByteSlice b32 = scalarSetByteSlice b :=
  ⟨_, setByteSlice_total b, by simp; omega, Buffers.scalarSetByteSlice_pad b⟩

/- The three parsers below: once the length test has passed, every read has a literal bound, so `simp`
   with the length equation and `idx_ok`/`slice_ok`/`sliceFrom_ok` removes the reads (their side goals
   close by the length equation and `Nat.reduceLT`/`Nat.reduceLeDiff`), `setByteSlice_total` and
   `Buffers.scalarSetByteSlice_pad` remove the 32-byte copies, and
   what is left is the total model with `ok` pushed through its `if`s (`ok_ite`). -/
theorem parseCompact_total (sig : Bytes) : parseCompactO sig = .ok (parseCompactM sig) := by
  unfold parseCompactO parseCompactM
  by_cases hl : sig.length = 65
  · simp only [hl, idx_ok, slice_ok, sliceFrom_ok, setByteSlice_total, Buffers.scalarSetByteSlice_pad, Outcome.bind_ok,
      Nat.reduceLT, Nat.reduceLeDiff, Outcome.pure_eq, ok_ite, List.headD_eq_head?_getD, List.head?_eq_getElem?]
  · simp only [hl, ne_eq, not_false_eq_true, if_true]
    rfl

theorem schnorrParse_total (sig : Bytes) : schnorrParseO sig = .ok (schnorrParse sig) := by
  unfold schnorrParseO schnorrParse
  by_cases hl : sig.length = 64
  · simp only [hl, slice_ok, setByteSlice_total, Buffers.scalarSetByteSlice_pad, Bytes.beNat_zeros_append, Outcome.bind_ok,
      Outcome.pure_eq, ok_ite, List.drop_zero, List.take_take, Nat.min_self, List.take_of_length_le,
      Nat.reduceLeDiff, Nat.le_refl, Nat.zero_le]
  · rcases (by omega : sig.length < 64 ∨ sig.length > 64) with h | h
    · rw [if_pos h, if_pos h]; rfl
    · rw [if_neg (by omega), if_pos h, if_neg (by omega), if_pos h]; rfl

theorem unmarshal_total (data : Bytes) : unmarshalO data = .ok (unmarshal data) := by
  unfold unmarshalO unmarshal
  by_cases hl : data.length = 82
  · have hp : (data.take 78).length = 78 := by simp [hl]
    simp only [hl, slice_ok, sliceFrom_ok, Outcome.bind_ok, List.drop_zero, Nat.reduceSub, Nat.reduceLeDiff, Nat.zero_le]
    generalize data.take 78 = payload at hp ⊢
    have hk : ((payload.take 78).drop 45).length = 33 := by simp [hp]
    have hd : ((payload.take 5).drop 4).length = 1 := by simp [hp]
    simp only [hp, hk, hd, idx_ok, slice_ok, sliceFrom_ok, Outcome.bind_ok, Outcome.pure_eq, ok_ite,
      List.headD_eq_head?_getD, List.head?_eq_getElem?, List.getD_eq_getElem?_getD, List.getElem?_eq_getElem,
      Option.getD_some, List.getElem_drop, List.getElem_take, Nat.add_zero, List.drop_zero,
      Nat.reduceLeDiff, Nat.reduceLT, Nat.zero_le, Nat.le_refl]
    cases hpk : parsePubKey ((payload.take 78).drop 45) with
    | panic => exact absurd hpk (PubKey.parsePubKey_no_panic _)
    | _ => rfl
  · simp only [hl, ne_eq, not_false_eq_true, if_true]
    rfl

theorem nonceKeyBuf_total (priv hash extra version : Bytes) :
    nonceKeyBufO priv hash extra version = .ok (nonceKeyBuf priv hash extra version) := by
  unfold nonceKeyBufO nonceKeyBuf
  simp only [trunc_ok, Outcome.bind_ok]
  generalize hp : priv.take 32 = p
  generalize hh : hash.take 32 = h
  have hpl : p.length ≤ 32 := by rw [← hp]; simp
  have hhl : h.length ≤ 32 := by rw [← hh]; simp
  have l1 : (zeros (32 - p.length) ++ p).length = 32 := by simp [zeros]; omega
  have l2 : (zeros (32 - p.length) ++ p ++ zeros (32 - h.length) ++ h).length = 64 := by simp [zeros]; omega
  obtain ⟨s1, e1, o1⟩ := copyAt_step (kb := List.replicate 112 (0 : UInt8)) (A := []) (src := p) (m := 112)
    (z := 32 - p.length) (off := 32 - p.length) (L := 112) (m' := 80) (F := zeros (32 - p.length) ++ p)
    rfl rfl (Nat.zero_add _).symm (by omega) rfl
  rw [sliceFrom_ok s1, Outcome.bind_ok, e1, o1]
  obtain ⟨s2, e2, o2⟩ := copyAt_step (kb := zeros (32 - p.length) ++ p ++ List.replicate 80 0) (m := 80) (src := h)
    (z := 32 - h.length) (L := 112) (m' := 48) (F := zeros (32 - p.length) ++ p ++ zeros (32 - h.length) ++ h)
    rfl (by rw [l1]) rfl (by omega) rfl
  rw [sliceFrom_ok s2, Outcome.bind_ok, e2, o2]
  generalize zeros (32 - p.length) ++ p ++ zeros (32 - h.length) ++ h = A at l2 ⊢
  by_cases he : extra.length = 32
  · obtain ⟨s3, e3, o3⟩ := copyAt_step (kb := A ++ List.replicate 48 0) (src := extra) (z := 0) (L := 112) (m' := 16)
      (F := A ++ extra) rfl (by rw [l2]) (Nat.add_zero _).symm (by omega) (by simp)
    simp only [if_pos he]
    rw [sliceFrom_ok s3, Outcome.bind_ok, e3, o3]
    by_cases hv : version.length = 16
    · obtain ⟨s4, e4, o4⟩ := copyAt_step (kb := A ++ extra ++ List.replicate 16 0) (src := version) (z := 0)
        (L := 112) (m' := 0) (F := A ++ extra ++ version) rfl (by simp; omega) (Nat.add_zero _).symm (by omega)
        (by simp)
      simp only [if_pos hv]
      rw [sliceFrom_ok s4, Outcome.bind_ok, e4, o4, slice_filled]
    · simp only [if_neg hv]
      rw [slice_filled]
  · simp only [if_neg he]
    by_cases hv : version.length = 16
    · obtain ⟨s5, e5, o5⟩ := copyAt_step (kb := A ++ List.replicate 48 0) (src := version) (z := 32) (L := 112)
        (m' := 0) (F := A ++ zeros 32 ++ version) rfl (by rw [l2]) rfl (by omega) rfl
      simp only [if_pos hv]
      rw [sliceFrom_ok s5, Outcome.bind_ok, e5, o5, slice_filled]
    · simp only [if_neg hv]
      rw [slice_filled]

theorem parseDER_total (b : Bytes) : parseDER b ≠ .panic := Secp.Props.C09.parseDER_no_panic b
theorem parsePubKey_total (b : Bytes) : parsePubKey b ≠ .panic := Secp.Props.C08.parsePubKey_no_panic b

/-- recovery panics only on the documented misuse -/
theorem recover_total (h : Bytes) (r s v : Nat) (hv : v ≠ 0xff) : recoverM h r s v ≠ .error .Panic :=
  fun hh => hv ((Total.recover_panic_iff h r s v).1 hh)

end Secp.Props.C20
